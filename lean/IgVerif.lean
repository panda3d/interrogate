import IgVerif.Basic
import IgVerif.Props.C01
import IgVerif.Props.C02
import IgVerif.Props.C03
import IgVerif.Props.C04
import IgVerif.Props.C05
import IgVerif.Props.C06
import IgVerif.Props.C07
import IgVerif.Props.C08
import IgVerif.Props.C09
import IgVerif.Props.C10
import IgVerif.Props.C11
import IgVerif.Props.C12
import IgVerif.Props.C13
import IgVerif.Props.C14
import IgVerif.Props.C15
import IgVerif.Props.C16
import IgVerif.Props.C17
import IgVerif.Props.C18
import IgVerif.Props.C19
import IgVerif.Props.C20
