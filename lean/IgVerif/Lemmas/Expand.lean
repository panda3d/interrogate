import IgVerif.Model.Expand
/-!
How `save` passes over one token of a macro body (a literal, a parameter name, `#`) and what
`rExpandGo` does at a parameter node; the expansion of a body made of a token or two follows by
rewriting with these.
-/
namespace IgVerif.Exp

variable {names : List (List Nat)} {variadic : Option Nat} {fuel : Nat} {prev : Option Nat} {cur : List Nat}
  {str paste : Bool} {nodes : List Node}

theorem takeLit_clean (q : Nat) (body rest : List Nat) (hb : ∀ c ∈ body, c ≠ q ∧ c ≠ 92) :
    takeLit q (body ++ q :: rest) = (body ++ [q], rest) := by
  induction body with
  | nil => rw [List.nil_append, takeLit.eq_def]; simp
  | cons b body ih =>
    have hb1 := hb b (List.mem_cons_self ..)
    rw [List.cons_append, takeLit.eq_def]
    simp [hb1.1, hb1.2, ih (fun c hc => hb c (List.mem_cons_of_mem _ hc))]

theorem save_nil : save names variadic fuel [] prev cur str paste nodes = (flush nodes cur paste).1 := by
  cases fuel <;> rfl

theorem save_literal {q : Nat} {body : List Nat} (rest : List Nat)
    (hq : q = 34 ∨ (q = 39 ∧ prevAlnum prev = false)) (hb : ∀ c ∈ body, c ≠ q ∧ c ≠ 92) :
    save names variadic (fuel + 1) (q :: (body ++ q :: rest)) prev cur str paste nodes =
      save names variadic fuel rest (some q) (cur ++ q :: (body ++ [q])) str paste nodes := by
  have hcond : (q == 34 || (q == 39 && !prevAlnum prev)) = true := by
    rcases hq with h | ⟨h1, h2⟩ <;> simp [*]
  rw [save, if_pos hcond, takeLit_clean q body rest hb]
  simp only [← List.cons_append, List.getLast?_concat]

theorem idStart_plain {c : Nat} (h : isIdStart c = true) : c ≠ 34 ∧ c ≠ 39 ∧ c ≠ 35 := by
  simp only [isIdStart, isAlpha, Bool.or_eq_true, Bool.and_eq_true, decide_eq_true_eq, beq_iff_eq] at h
  omega

/-- which parameter an identifier of the body names -/
abbrev paramOf (names : List (List Nat)) (variadic : Option Nat) (id : List Nat) : Option Nat :=
  if id == vaArgs then variadic else indexOf names id

theorem vaArgs_eq : vaArgs = [95, 95, 86, 65, 95, 65, 82, 71, 83, 95, 95] := by decide +kernel

/-- **a parameter name** (or `__VA_ARGS__` in a variadic macro) that ends the body closes the current
chunk and becomes a parameter node, marked with the pending `#` -/
theorem save_param {c : Nat} {w : List Nat} {i : Nat} (hc : isIdStart c = true) (hw : ∀ x ∈ w, isIdChar x = true)
    (hp : paramOf names variadic (c :: w) = some i) :
    save names variadic (fuel + 1) (c :: w) prev cur str paste nodes =
      (flush nodes cur paste).1 ++ [.param i str (flush nodes cur paste).2 true] := by
  have h := List.takeWhile_append_of_pos (l₂ := []) hw
  have h' := List.dropWhile_append_of_pos (l₂ := []) hw
  rw [List.append_nil] at h h'
  rw [save, if_neg (by simp [idStart_plain hc]), if_pos hc]
  simp only [h, h', List.takeWhile_nil, List.dropWhile_nil, List.append_nil, hp, save_nil]
  rfl

theorem save_hash {rest : List Nat} (h : rest.head? ≠ some 35) :
    save names variadic (fuel + 1) (35 :: rest) prev cur str paste nodes =
      save names variadic fuel rest (some 35) [] true (flush nodes cur paste).2 (flush nodes cur paste).1 := by
  rw [save, if_neg (by simp), if_neg (by decide), if_pos (by decide)]
  split
  · exact absurd rfl h
  · rfl

variable {args : List (List Nat)} {i : Nat}

/-- the text that stands for parameter `i`: its argument, all the variable arguments joined for
`__VA_ARGS__`, nothing for an argument that was not given -/
def argText (variadic : Option Nat) (args : List (List Nat)) (i : Nat) : List Nat :=
  if variadic == some i then joinArgs (args.drop i) else args.getD i []

theorem argText_of_le (h : args.length ≤ i) : argText variadic args i = [] := by
  unfold argText
  split
  · rw [List.drop_eq_nil_of_le h]; rfl
  · simp [List.getD_eq_getElem?_getD, List.getElem?_eq_none h]

/-- what a parameter node puts in: the argument text, stringified under `#` -/
def substText (variadic : Option Nat) (args : List (List Nat)) (i : Nat) (str : Bool) : List Nat :=
  if str then Mac.stringify (argText variadic args i) else argText variadic args i

theorem substText_nil_of_isEmpty (h : (substText variadic args i str).isEmpty = true) :
    str = false ∧ substText variadic args i str = [] := by
  cases str
  · exact ⟨rfl, List.isEmpty_iff.mp h⟩
  · exact absurd h (by simp [substText, Mac.stringify])

/-- no blank goes in at the start of the result or under `##` -/
theorem addSubst_append {result : List Nat} {paste : Bool} (h : (result.isEmpty || paste) = true) (s : List Nat) :
    addSubst result s paste = result ++ s := by
  cases s <;> simp [addSubst, h]

/-- **`r_expand` at a parameter.**  The five branches of the code come to this: unless the comma
before an absent `, ## __VA_ARGS__` is to go, the parameter's text is appended — a missing
argument as an empty one — and the placemarker flag says whether that text was empty. -/
theorem rExpandGo_param (vaAbsent p e : Bool) (ns : List Node) (result : List Nat) (pm : Bool) :
    rExpandGo variadic args vaAbsent (.param i str p e :: ns) result pm =
      if (variadic == some i && p) && (vaAbsent || (!str && decide (args.length ≤ i))) then
        rExpandGo variadic args vaAbsent ns (dropComma result) (!str)
      else rExpandGo variadic args vaAbsent ns (addSubst result (substText variadic args i str) (p && !pm))
        (substText variadic args i str).isEmpty := by
  rw [rExpandGo]
  by_cases hlt : i < args.length
  · have hle : decide (args.length ≤ i) = false := by simpa using hlt
    rw [if_pos hlt, hle, Bool.and_false, Bool.or_false]
    split
    · rfl
    · show (if (substText variadic args i str).isEmpty then _ else _) = _
      cases h : (substText variadic args i str).isEmpty
      · rfl
      · obtain ⟨rfl, h0⟩ := substText_nil_of_isEmpty h
        rw [h0]; rfl
  · have hle : decide (args.length ≤ i) = true := by simpa using hlt
    have h0 : ∀ str, substText variadic args i str = if str then Mac.stringify [] else [] := by
      intro str; rw [substText, argText_of_le (Nat.le_of_not_lt hlt)]
    rw [if_neg hlt, hle, Bool.and_true, h0]
    generalize (variadic == some i && p) = b
    -- with the rest of the expansion made opaque each combination of the flags computes
    generalize rExpandGo variadic args vaAbsent ns = f
    cases str <;> cases b <;> cases vaAbsent <;> rfl

theorem rExpand_text (s : List Nat) (p e : Bool) : rExpand variadic [.text s p e] args = s := by
  cases s <;> rfl

theorem rExpand_param (e : Bool) : rExpand variadic [.param i str false e] args = substText variadic args i str := by
  unfold rExpand
  rw [rExpandGo_param, Bool.and_false, Bool.false_and, if_neg Bool.false_ne_true, addSubst_append rfl]
  rfl

theorem rExpand_paste (i j : Nat) (e e' : Bool) (args : List (List Nat)) :
    rExpand none [.param i false false e, .param j false true e'] args = args.getD i [] ++ args.getD j [] := by
  have h : ∀ k, substText none args k false = args.getD k [] := fun k => rfl
  unfold rExpand
  rw [rExpandGo_param, if_neg (by simp), rExpandGo_param, if_neg (by simp), h, h,
    addSubst_append (result := []) rfl, List.nil_append]
  -- the second argument is pasted on unless the first was a placemarker, and then the result is still empty
  exact addSubst_append (by rw [Bool.true_and, Bool.or_not_self]) _

/-- **Parameter substitution.** `#define M(…, p_i, …) p_i`: `M(args)` is the `i`-th argument;
`#define V(…, ...) __VA_ARGS__`: the variable arguments joined by `, ` -/
theorem expand_param {c : Nat} {w : List Nat} (hc : isIdStart c = true) (hw : ∀ x ∈ w, isIdChar x = true)
    (hp : paramOf names variadic (c :: w) = some i) :
    expandOnce names variadic (c :: w) args = argText variadic args i := by
  rw [expandOnce, saveExpansion, save_param hc hw hp]
  exact rExpand_param true

/-- **The `#` operator on any parameter.** `#define S(…, p_i, …) #p_i`: `S(args)` is the `i`-th
argument stringified — the empty string literal if that argument is missing -/
theorem expand_hash_param {c : Nat} {w : List Nat} (hc : isIdStart c = true) (hw : ∀ x ∈ w, isIdChar x = true)
    (hp : paramOf names variadic (c :: w) = some i) :
    expandOnce names variadic (35 :: c :: w) args = Mac.stringify (argText variadic args i) := by
  rw [expandOnce, saveExpansion, save_hash (by simpa using (idStart_plain hc).2.2), List.length_cons,
    save_param hc hw hp]
  exact rExpand_param true

end IgVerif.Exp
