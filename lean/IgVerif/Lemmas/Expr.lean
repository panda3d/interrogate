import IgVerif.Model.Expr
/-!
`evaluate` computes what C++ computes whenever the latter is defined within `int`.

Everything is said through one relation, `Refines r o`, between a result of the evaluator and a
value of the specification; each constructor of `Expr`, each operator and each cast preserves it.
-/
namespace IgVerif.Ex

theorem inInt_iff {x : Int} : inInt x = true ↔ -2147483648 ≤ x ∧ x ≤ 2147483647 := by
  simp only [inInt, Bool.and_eq_true, decide_eq_true_eq]; exact Iff.rfl

theorem wrap32_id (x : Int) (h : inInt x = true) : wrap32 x = x := by
  rw [inInt_iff] at h
  rw [wrap32, BitVec.toInt_ofInt, Int.bmod_eq_of_le] <;> omega

theorem chk_eq_some {x v : Int} : chk x = some v ↔ x = v ∧ inInt x = true := by
  unfold chk; split <;> simp [*]

theorem inInt_b2i (b : Bool) : inInt (b2i b) = true := by cases b <;> decide

/-- `r` is what the evaluator returns, `o` what C++ defines: where C++ defines a value, it lies
within `int` and the evaluator returns it -/
def Refines (r : Res) (o : Option Int) : Prop := ∀ v, o = some v → r = .int v ∧ inInt v = true

theorem Refines.undef (r : Res) : Refines r none := fun _ h => nomatch h

theorem Refines.value {v : Int} (h : inInt v = true) : Refines (.int v) (some v) :=
  fun _ e => by cases e; exact ⟨rfl, h⟩

theorem Refines.b2i (b : Bool) : Refines (.int (Ex.b2i b)) (some (Ex.b2i b)) := .value (inInt_b2i b)

theorem Refines.chk (x : Int) : Refines (.int x) (Ex.chk x) := fun v h => by
  obtain ⟨rfl, hi⟩ := chk_eq_some.mp h; exact ⟨rfl, hi⟩

/-- the evaluator truncates to 32 bits: within `int` nothing is cut off -/
theorem Refines.wrap (x : Int) : Refines (.int (wrap32 x)) (Ex.chk x) := fun v h => by
  obtain ⟨rfl, hi⟩ := chk_eq_some.mp h; exact ⟨by rw [wrap32_id _ hi], hi⟩

theorem Refines.ite {c : Prop} [Decidable c] {r r' : Res} {o o' : Option Int} (h : Refines r o) (h' : Refines r' o') :
    Refines (if c then r else r') (if c then o else o') := by
  split
  · exact h
  · exact h'

/-- an operand that must have a value: where the specification has none, nothing is asked of `s`;
else the evaluator has found the same value, and both go on with it
(the hypotheses are arrows: named before the colon, the `match` would be generalised over them
and no longer be that of `cxxEval`) -/
theorem Refines.bind {r s : Res} {o : Option Int} {g : Int → Option Int} :
    Refines r o → (∀ x, r = .int x → inInt x = true → Refines s (g x)) →
    Refines s (match o with | none => none | some x => g x) := by
  intro h hg v hv
  cases o with
  | none => cases hv
  | some x => obtain ⟨hr, hi⟩ := h x rfl; exact hg x hr hi v hv

theorem binInt_refines (op : BinOp) (x y : Int) (hy : inInt y = true) : Refines (binInt op x y) (cxxBin op x y) := by
  cases op
  case mul | add | sub => exact .wrap _
  case div | mod =>
    rw [binInt, cxxBin]
    exact .ite (.undef _) (.chk _)
  -- C++ defines a shift only for counts 0 … 31, which the CPU's masking leaves alone
  case shl =>
    rw [binInt, cxxBin]
    split
    · next h => rw [Int.emod_eq_of_lt h.1 h.2.1]; exact .wrap _
    · exact .undef _
  case shr =>
    rw [binInt, cxxBin]
    split
    · next h => rw [Int.emod_eq_of_lt h.1 h.2]; exact .chk _
    · exact .undef _
  case lt | gt | le | ge | eq | ne | land | lor => exact .b2i _
  case band | bxor | bor => exact .chk _
  case comma => exact .value hy

theorem castInt_refines (k : CastTo) (x : Int) : Refines (castInt k x) ((cxxCast k x).bind chk) := by
  cases k <;> simp only [castInt, cxxCast, Option.bind_some]
  case uint | ulong =>
    split
    · exact .undef _
    · exact .chk _
  all_goals exact .chk _

/-- With the value `x` of the first operand in hand, specification and evaluator read a binary
operator alike: `x` alone decides an `||` or `&&` where it can; otherwise the second operand must
have a value too, and the operator is applied to both. -/
theorem cxxEval_bin (op : BinOp) (a b : Expr) : cxxEval (.bin op a b) =
    match cxxEval a with
    | none => none
    | some x =>
      if op == .lor && x != 0 then some 1 else if op == .land && x == 0 then some 0 else
      match cxxEval b with
      | none => none
      | some y => cxxBin op x y := by
  by_cases h : op = .lor ∨ op = .land
  · rcases h with rfl | rfl
    all_goals
      rw [cxxEval]
      cases cxxEval a with
      | none => rfl
      | some x =>
        cases cxxEval b with
        | none => rfl
        | some y => cases h0 : x == 0 <;> simp [cxxBin, h0, bne]
  · rw [not_or] at h
    -- the equation of the last `bin` pattern asks for `op` to be neither of the two
    rw [cxxEval]
    · cases cxxEval a <;> cases cxxEval b <;> simp [h.1, h.2]
    · exact h.1
    · exact h.2

/-- the evaluator looks at the second operand first and comes to the same -/
theorem evaluate_bin (op : BinOp) {a : Expr} (b : Expr) {x : Int} (ha : evaluate a = .int x) :
    evaluate (.bin op a b) =
      if op == .lor && x != 0 then .int 1 else if op == .land && x == 0 then .int 0 else
      match evaluate b with
      | .error => .error
      | .int y => binInt op x y := by
  rw [evaluate, ha]
  by_cases h : op = .lor ∨ op = .land
  · rcases h with rfl | rfl
    all_goals
      cases evaluate b with
      | error => rfl
      | int y => cases h0 : x == 0 <;> simp [binInt, b2i, h0, bne]
  · rw [not_or] at h
    cases evaluate b <;> simp [h.1, h.2]

/-- **Main theorem.** Whenever C++ assigns the expression a value, that value lies within `int`
and interrogate's evaluator returns exactly it. -/
theorem evaluate_refines (e : Expr) : Refines (evaluate e) (cxxEval e) := by
  induction e with
  | int n => exact .wrap n
  | bool b => exact .b2i b
  | unknown => exact .undef _
  | un op e ih =>
    rw [cxxEval]
    refine ih.bind fun x he hx => ?_
    rw [evaluate, he]
    cases op
    · exact .b2i _
    · exact .chk _
    · exact .wrap _
    · exact .value hx
  | bin op a b iha ihb =>
    rw [cxxEval_bin]
    refine iha.bind fun x hea _ => ?_
    rw [evaluate_bin op b hea]
    refine .ite (.value (by decide)) (.ite (.value (by decide)) (ihb.bind fun y heb hy => ?_))
    rw [heb]
    exact binInt_refines op x y hy
  | tern c a b ihc iha ihb =>
    rw [cxxEval]
    refine ihc.bind fun x hec _ => ?_
    rw [evaluate, hec]
    exact .ite iha ihb
  | cast k e ih =>
    rw [cxxEval]
    refine ih.bind fun x he _ => ?_
    rw [evaluate, he]
    exact castInt_refines k x

theorem evaluate_eq_cxxEval (e : Expr) (v : Int) (h : cxxEval e = some v) : evaluate e = .int v :=
  (evaluate_refines e v h).1

theorem cxxEval_inInt (e : Expr) (v : Int) (h : cxxEval e = some v) : inInt v = true :=
  (evaluate_refines e v h).2

end IgVerif.Ex
