import IgVerif.Model.CharLit
/-! What `scan_escape_sequence` reads after a backslash: one to three octal digits, or `x` and every
hexadecimal digit that follows. -/
namespace IgVerif.Chr
open IgVerif.Lit

theorem charValue_escape (r : List Nat) :
    charValue (92 :: r) = toSigned ((scanEscape r).1 % 256) := by
  simp [charValue, scanQuoted]

/-- every letter of the `switch` is `a` or later -/
theorem simpleEsc_none_of_lt (c : Nat) (h : c < 97) : simpleEsc c = none := by
  have ne (k : Nat) (hk : 97 ≤ k) : ¬ c = k := by omega
  simp only [simpleEsc, ne, Nat.reduceLeDiff, if_false]

/-- an octal digit is no one-letter escape and not `x`: one to three octal digits are read -/
theorem scanEscape_oct (a b c x : Nat) (rest : List Nat) (ha : isOct a = true) (hb : isOct b = true)
    (hc : isOct c = true) (hx : isOct x = false) :
    scanEscape (a :: b :: c :: rest) = (((a - 48) * 8 + (b - 48)) * 8 + (c - 48), rest) ∧
    scanEscape (a :: b :: x :: rest) = ((a - 48) * 8 + (b - 48), x :: rest) ∧
    scanEscape (a :: x :: rest) = (a - 48, x :: rest) := by
  have ha' : a < 97 := by simp only [isOct, Bool.and_eq_true, decide_eq_true_eq] at ha; omega
  have hx' : a ≠ 120 := by omega
  simp [scanEscape, simpleEsc_none_of_lt a ha', hx', ha, hb, hc, hx]

theorem scanEscape_hex (h1 : Nat) (ds : List Nat) (x : Nat) (rest : List Nat) (e1 : isHex h1 = true)
    (eds : ∀ d ∈ ds, isHex d = true) (ex : isHex x = false) :
    scanEscape (120 :: h1 :: (ds ++ x :: rest)) = (strtol 16 (h1 :: ds), x :: rest) := by
  have hall : ∀ d ∈ h1 :: ds, isHex d = true := List.forall_mem_cons.mpr ⟨e1, eds⟩
  have hx : ¬ isHex x = true := by simp [ex]
  have hs : simpleEsc 120 = none := by decide
  simp only [scanEscape, hs, if_true, e1, ← List.cons_append]
  rw [List.takeWhile_append_of_pos hall, List.dropWhile_append_of_pos hall,
    List.takeWhile_cons_of_neg hx, List.dropWhile_cons_of_neg hx, List.append_nil]

end IgVerif.Chr
