import IgVerif.Model.OutProto
/-! Soundness of the syntactic check `wellChecked`: under every fault schedule,
lost output implies a non-zero exit status. -/
namespace IgVerif.OP

/-- the abstract flags of a channel cover its concrete ones, and every loss so far has marked the stream failed -/
def Covers (x : Abs) (c : Chan) : Prop :=
  (c.dirty = true → x.mayDirty = true) ∧ (c.failed = true → x.mayFailUnseen = true) ∧ (c.lost = true → c.failed = true)

/-- abstraction relation: either the status is already non-zero (and stays so), or every channel is covered -/
def Rel (a : AbsSt) (s : St) : Prop := s.status = true ∨ ∀ ch, Covers (a ch) (s.chan ch)

theorem next_chan (s : St) : s.next.2.chan = s.chan := by
  unfold St.next; split <;> rfl

theorem next_status (s : St) : s.next.2.status = s.status := by
  unfold St.next; split <;> rfl

theorem upd_status (s : St) (ch : Nat) (c : Chan) : (s.upd ch c).status = s.status := rfl

theorem status_stepSimple (s : St) (x : Simple) (h : s.status = true) : (stepSimple s x).status = true := by
  cases x with
  | «open» ch => simp [stepSimple, upd_status, next_status, h]
  | write ch => simp only [stepSimple]; split <;> simp [upd_status, next_status, h]
  | close ch => simp only [stepSimple, upd_status]; split <;> simp [next_status, h]
  | setIfFail ch => simp only [stepSimple]; split <;> simp [h]

theorem status_foldSimple (xs : List Simple) (s : St) (h : s.status = true) :
    (xs.foldl stepSimple s).status = true :=
  List.foldlRecOn xs stepSimple h fun s hs x _ => status_stepSimple s x hs

/-- the shape every step has: apart from the schedule one channel changes, concretely and abstractly -/
theorem Rel.upd {a : AbsSt} {s t : St} {ch : Nat} {c : Chan} {x : Abs} (h : Rel a s) (hch : t.chan = s.chan)
    (hst : t.status = s.status) (hc : Covers (a ch) (s.chan ch) → Covers x c) : Rel (a.upd ch x) (t.upd ch c) := by
  refine h.imp (fun h => hst.trans h) fun h k => ?_
  show Covers (if k = ch then x else a k) (if k = ch then c else t.chan k)
  split
  · exact hc (h ch)
  · rw [hch]; exact h k

/-- a test of the stream changes only what the abstract side knows of its failure -/
theorem Rel.setUnseen {a : AbsSt} {s : St} {ch : Nat} (b : Bool) (h : Rel a s) (hb : (s.chan ch).failed = true → b = true) :
    Rel (a.upd ch { (a ch) with mayFailUnseen := b }) s := by
  refine h.imp_right fun h k => ?_
  rw [AbsSt.upd]
  split
  · subst k; exact ⟨(h ch).1, hb, (h ch).2.2⟩
  · exact h k

theorem covers_open {x : Abs} {c : Chan} (e : Nat) (h : Covers x c) : Covers { x with mayFailUnseen := true } (openChan c e) := by
  unfold openChan; split
  · exact ⟨h.1, fun _ => rfl, fun _ => rfl⟩
  · exact ⟨h.1, fun _ => rfl, h.2.2⟩

theorem covers_write {x : Abs} {c : Chan} (e : Nat) (h : Covers x c) :
    Covers { mayDirty := true, mayFailUnseen := true } (writeChan c e) := by
  refine ⟨fun _ => rfl, fun _ => rfl, ?_⟩
  unfold writeChan
  by_cases hf : c.failed = true
  · rw [if_pos hf]; exact fun _ => hf
  · rw [if_neg hf]
    generalize (e == 2) = b2
    generalize (e == 1) = b1
    cases b2 with
    | true => exact fun _ => rfl
    | false => cases b1 <;> exact h.2.2

theorem covers_close {x : Abs} {c : Chan} (e1 e2 : Nat) (h : Covers x c) :
    Covers { mayDirty := false, mayFailUnseen := true } (closeChan c e1 e2) := by
  unfold closeChan
  generalize (c.dirty && e1 == 2) = b1
  generalize (e2 == 2) = b2
  cases b2
  · cases b1
    · exact ⟨nofun, fun _ => rfl, h.2.2⟩
    · exact ⟨nofun, fun _ => rfl, fun _ => rfl⟩
  · exact ⟨by cases b1 <;> exact nofun, fun _ => rfl, fun _ => rfl⟩

theorem rel_stepSimple (a : AbsSt) (s : St) (x : Simple) (h : Rel a s) :
    Rel (absSimple a x) (stepSimple s x) := by
  cases x with
  | «open» ch =>
    exact h.upd (next_chan s) (next_status s) (covers_open _)
  | write ch =>
    simp only [stepSimple]
    split
    · exact h.upd rfl rfl (covers_write _)
    · exact h.upd (next_chan s) (next_status s) (covers_write _)
  | close ch =>
    have hr : ∀ b : Bool, (if b then s.next else (0, s)).2.next.2.chan = s.chan ∧
        (if b then s.next else (0, s)).2.next.2.status = s.status := fun b => by
      cases b <;> simp [next_chan, next_status]
    simp only [stepSimple, absSimple]
    exact h.upd (hr _).1 (hr _).2 (covers_close _ _)
  | setIfFail ch =>
    simp only [stepSimple]
    split
    · exact Or.inl rfl
    · rename_i hnf
      exact h.setUnseen false fun hx => absurd hx hnf

theorem Rel.join {t e : AbsSt} {s : St} (h : Rel t s ∨ Rel e s) : Rel (absJoin t e) s := by
  rcases h with h | h <;>
    exact h.imp_right fun h k => ⟨fun x => by simp [absJoin, (h k).1 x], fun x => by simp [absJoin, (h k).2.1 x], (h k).2.2⟩

theorem rel_stepStmt (a : AbsSt) (s : St) (x : Stmt) (h : Rel a s) : Rel (absStmt a x) (stepStmt s x) := by
  cases x with
  | s y => exact rel_stepSimple a s y h
  | ifFailElse ch sets els =>
    simp only [stepStmt, absStmt]
    by_cases hfail : (s.chan ch).failed = true
    · rw [if_pos hfail]
      cases sets with
      | true => exact Or.inl rfl
      | false => exact Rel.join (Or.inl (h.setUnseen true fun _ => rfl))
    · rw [if_neg hfail]
      exact Rel.join (Or.inr (List.foldl_rel (h.setUnseen false fun hx => absurd hx hfail) fun x _ a s => rel_stepSimple a s x))

theorem finish_status (chs : List Nat) (s : St) : (finish chs s).status = s.status := by
  refine List.foldlRecOn (motive := fun t : St => t.status = s.status) chs _ rfl fun t ht ch _ => ?_
  dsimp only
  split
  · simp [upd_status, next_status, ht]
  · exact ht

theorem finish_clean (chs : List Nat) (s : St) (h : ∀ ch ∈ chs, (s.chan ch).dirty = false) :
    finish chs s = s := by
  unfold finish
  induction chs with
  | nil => rfl
  | cons ch chs ih =>
    simp only [List.foldl_cons]
    have : (s.chan ch).dirty = false := h ch (by simp)
    simp only [this, Bool.false_eq_true, if_false]
    exact ih (fun k hk => h k (by simp [hk]))

/-- **Soundness of the check.** If the protocol passes `wellChecked` then under
every fault schedule, whenever any output data is lost the exit status is non-zero. -/
theorem wellChecked_sound (p : Proto) (hw : wellChecked p = true) (sched : List Nat)
    (hlost : (run p sched).lost = true) : (run p sched).exitNonZero = true := by
  unfold wellChecked at hw
  simp only [Bool.and_eq_true, List.all_eq_true, Bool.not_eq_true'] at hw
  obtain ⟨hret, hall⟩ := hw
  have hrel : Rel (p.body.foldl absStmt fun _ => {}) (p.body.foldl stepStmt { sched := sched }) :=
    List.foldl_rel (Or.inr fun k => by simp [Covers]) fun x _ a s => rel_stepStmt a s x
  unfold run at hlost ⊢
  simp only at hlost ⊢
  rcases hrel with hst | hch
  · simp [finish_status, hst, hret]
  · -- no channel is dirty, failed or lost: the destructors change nothing, so nothing is lost
    exfalso
    have hclean : ∀ ch ∈ chansOf p.body, ((p.body.foldl stepStmt { sched := sched }).chan ch).dirty = false :=
      fun ch hmem => Bool.eq_false_iff.2 fun hx => by
        have := (hch ch).1 hx
        rw [(hall ch hmem).1] at this; cases this
    rw [finish_clean _ _ hclean] at hlost
    obtain ⟨ch, hmem, hl⟩ := List.any_eq_true.1 hlost
    have := (hch ch).2.1 ((hch ch).2.2 hl)
    rw [(hall ch hmem).2] at this; cases this

end IgVerif.OP
