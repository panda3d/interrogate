import IgVerif.Model.Query
import IgVerif.Lemmas.Remap
/-! The query interface as a state machine.  What a call does is said once: a request and a lookup are
brought to a normal form `{ s with … }` (`requestModule_effect`, `lookup_fst`), the loading of pending files
is a step of the preorder `Reloaded` (`checkLatest_reloaded`); the invariants of the reachable states are
checked against these, not against the definitions.  At the end, the search of a module's unique-name
table (`bsearchFuel_spec`, `bsearch_spec`). -/
namespace IgVerif

theorem SMap.find_set (m : SMap) (k k' : Bytes) (v : Int) :
    SMap.find (m.set k v) k' = if k == k' then some v else SMap.find m k' := by
  rw [SMap.set, SMap.find]
  split
  · rfl
  · next h =>
    -- the entries dropped are those under `k`, which is not the key asked for
    induction m with
    | nil => rfl
    | cons p rest ih =>
      rw [List.filter_cons]
      split
      · rw [SMap.find, SMap.find, ih]
      · next hp =>
        have : p.1 = k := by simpa using hp
        rw [ih, SMap.find, this, if_neg h]

/-- `freshen_*()` + `find`: later entries overwrite earlier ones, so a name is answered with the
last entry of the map, in index order, that bears it -/
theorem freshen_find (spec : List Field) (member : String) (name : Bytes) (m : IMap (List Val)) :
    SMap.find (freshen spec m member) name =
      (m.reverse.find? (fun p => getStr spec p.2 member == name)).map (·.1) := by
  rw [freshen, List.foldl_eq_foldr_reverse]
  induction m.reverse with
  | nil => rfl
  | cons p l ih =>
    rw [List.foldr_cons, SMap.find_set, ih, List.find?_cons]
    cases getStr spec p.2 member == name <;> rfl

inductive QOp where
  | request (d : ModDef)                       -- interrogate_request_module / _database
  | lookup (k : LookupKind) (name : Bytes)     -- interrogate_get_*_by_*name
  | touch                                      -- any other accessor (calls check_latest)

def qstep (c : Cfg) (s : St) : QOp → St
  | .request d => s.requestModule d
  | .lookup k name => (s.lookup c k name).1
  | .touch => s.checkLatest c

theorem reachable_induction {c : Cfg} {P : St → Prop} (h0 : P {}) (hstep : ∀ s op, P s → P (qstep c s op))
    (ops : List QOp) : P (ops.foldl (qstep c) {}) :=
  List.foldlRecOn ops (qstep c) h0 fun s hs op _ => hstep s op hs

theorem rmAssign_fst (s : St) (d : ModDef) :
    (s.rmAssign d).1 = if d.next - d.first > 0 then
      { s with db := { s.db with nextIndex := s.db.nextIndex + (d.next - d.first) },
               modules := s.modules ++ [{ d with first := s.db.nextIndex, next := s.db.nextIndex + (d.next - d.first) }] }
      else s := by
  unfold St.rmAssign
  simp only
  split <;> rfl

theorem requestModule_effect (s : St) (d : ModDef) :
    ∃ bh rq, s.requestModule d = { (s.rmAssign d).1 with byHash := bh, requests := rq } := by
  unfold St.requestModule St.rmRequest St.rmHash
  split <;> split <;> exact ⟨_, _, rfl⟩

theorem foldl_keeps {α β γ : Type} (f : β → α → β) (proj : β → γ) (l : List α) (b : β)
    (h : ∀ b a, proj (f b a) = proj b) : proj (l.foldl f b) = proj b :=
  List.foldlRecOn (motive := fun x => proj x = proj b) l f rfl fun x hx a _ => (h x a).trans hx

theorem mergeFrom_nextIndex (sch : Schema) (fc : FlagCfg) (rc : RemapCfg) (this other : Db) :
    (Db.mergeFrom sch fc rc this other).nextIndex = this.nextIndex := by
  unfold Db.mergeFrom
  -- the remapper stays a variable: inlined into the six loops it makes every step carry a large term
  extract_lets sp byName rm db1 db2 db3 db4 db5 db6
  calc db6.nextIndex = db5.nextIndex := foldl_keeps _ _ _ _ fun _ _ => rfl
    _ = db4.nextIndex := foldl_keeps _ _ _ _ fun _ _ => rfl
    _ = db3.nextIndex := foldl_keeps _ _ _ _ fun _ _ => rfl
    _ = db2.nextIndex := foldl_keeps _ _ _ _ fun _ _ => rfl
    _ = db1.nextIndex := foldl_keeps _ _ _ _ fun d p => by dsimp only; split <;> rfl
    _ = this.nextIndex := foldl_keeps _ _ _ _ fun d p => by
      dsimp only
      split
      · split <;> rfl
      · split <;> rfl

theorem loadOutcome_next (c : Cfg) (db : Db) (d : ModDef) (db' : Db) (b : Bool)
    (h : loadOutcome c db d = .merged db' b) : db.nextIndex ≤ db'.nextIndex := by
  revert h
  fun_cases loadOutcome c db d
  all_goals intro h
  all_goals try cases h
  -- the two leaves that merge: a plain file is numbered from the next free index, a module's file leaves it alone
  · next temp _ _ _ temp' _ heq =>
    have := (remapIndices_ranges c.sch c.rc temp db.nextIndex).2.2
    rw [heq] at this
    rw [← (LoadOutcome.merged.inj h).1, mergeFrom_nextIndex]
    simp only at this ⊢
    omega
  · rw [← (LoadOutcome.merged.inj h).1, mergeFrom_nextIndex]; exact Int.le_refl _

/-- What loading database files does to a state: nothing to the module table, the request queue and the six
lookup tables; the database, with the fresh bits, stays as it is, or it is replaced by one whose next free
index is no lower and every table is marked stale. -/
structure Reloaded (s t : St) : Prop where
  modules : t.modules = s.modules
  requests : t.requests = s.requests
  cache : ∀ k, t.cache k = s.cache k
  next : s.db.nextIndex ≤ t.db.nextIndex
  stale : t.fresh = [] ∨ (t.fresh = s.fresh ∧ t.db = s.db)

theorem Reloaded.refl (s : St) : Reloaded s s := ⟨rfl, rfl, fun _ => rfl, Int.le_refl _, .inr ⟨rfl, rfl⟩⟩

theorem Reloaded.trans {s t u : St} (h1 : Reloaded s t) (h2 : Reloaded t u) : Reloaded s u where
  modules := h2.modules.trans h1.modules
  requests := h2.requests.trans h1.requests
  cache k := (h2.cache k).trans (h1.cache k)
  next := Int.le_trans h1.next h2.next
  stale := by
    rcases h2.stale with e | ⟨ef, ed⟩
    · exact .inl e
    · rw [ef, ed]; exact h1.stale

theorem loadOne_reloaded (c : Cfg) (s : St) (d : ModDef) : Reloaded s (s.loadOne c d) := by
  unfold St.loadOne
  split
  · exact .refl s
  · exact ⟨rfl, rfl, fun _ => rfl, Int.le_refl _, .inr ⟨rfl, rfl⟩⟩
  · next db b h => exact ⟨rfl, rfl, fun _ => rfl, loadOutcome_next c s.db d db b h, .inl rfl⟩

/-- `check_latest()` empties the request queue; beyond that it loads files -/
theorem checkLatest_reloaded (c : Cfg) (s : St) : Reloaded { s with requests := [] } (s.checkLatest c) := by
  unfold St.checkLatest
  split
  · next h => rw [← show s.requests = [] by simpa using h]; exact .refl s
  · exact List.foldlRecOn s.requests (St.loadOne c) (.refl _) fun t ht d _ => ht.trans (loadOne_reloaded c t d)

theorem checkLatest_requests (c : Cfg) (s : St) : (s.checkLatest c).requests = [] :=
  (checkLatest_reloaded c s).requests

theorem lookup_fst (c : Cfg) (s : St) (k : LookupKind) (name : Bytes) :
    (s.lookup c k name).1 = if k ∈ (s.checkLatest c).fresh then s.checkLatest c
      else ({ s.checkLatest c with fresh := k :: (s.checkLatest c).fresh } : St).setCache k
        ((s.checkLatest c).freshMap c k) := by
  unfold St.lookup
  by_cases h : k ∈ (s.checkLatest c).fresh <;> simp [h]
  -- the fresh bit and the table are separate fields: set in either order
  cases k <;> rfl

theorem setCache_frame (s : St) (k : LookupKind) (m : SMap) :
    (s.setCache k m).db = s.db ∧ (s.setCache k m).modules = s.modules ∧ (s.setCache k m).requests = s.requests ∧
      (s.setCache k m).fresh = s.fresh := by
  cases k <;> exact ⟨rfl, rfl, rfl, rfl⟩

theorem cache_setCache (s : St) (k k' : LookupKind) (m : SMap) :
    (s.setCache k m).cache k' = if k' = k then m else s.cache k' := by
  cases k <;> cases k' <;> rfl

theorem freshMap_congr (c : Cfg) (s t : St) (h : s.db = t.db) (k : LookupKind) :
    s.freshMap c k = t.freshMap c k := by
  cases k <;> simp [St.freshMap, h]

theorem lookup_requests (c : Cfg) (s : St) (k : LookupKind) (name : Bytes) :
    (s.lookup c k name).1.requests = [] := by
  rw [lookup_fst]
  split
  · exact checkLatest_requests c s
  · exact (setCache_frame ..).2.2.1.trans (checkLatest_requests c s)

/-- every table whose fresh bit is set equals what `freshen` would compute now -/
def CacheInv (c : Cfg) (s : St) : Prop := ∀ k, k ∈ s.fresh → s.cache k = s.freshMap c k

theorem Reloaded.cacheInv {c : Cfg} {s t : St} (h : Reloaded s t) (hi : CacheInv c s) : CacheInv c t := by
  intro k hk
  rcases h.stale with e | ⟨ef, ed⟩
  · rw [e] at hk; cases hk
  · -- the invariant reads the fresh bits, the six tables and the maps, all as they were
    rw [h.cache, freshMap_congr c t s ed]
    exact hi k (ef ▸ hk)

theorem cacheInv_checkLatest (c : Cfg) (s : St) (h : CacheInv c s) : CacheInv c (s.checkLatest c) :=
  (checkLatest_reloaded c s).cacheInv h

/-- **Lookup answers from the current database**, whatever was cached before. -/
theorem lookup_answer (c : Cfg) (s : St) (k : LookupKind) (name : Bytes) (h : CacheInv c s) :
    (s.lookup c k name).2 = (SMap.find ((s.checkLatest c).freshMap c k) name).getD 0 := by
  show (SMap.find ((s.lookup c k name).1.cache k) name).getD 0 = _
  rw [lookup_fst]
  split
  · next hc => rw [cacheInv_checkLatest c s h k hc]
  · rw [cache_setCache, if_pos rfl]

theorem cacheInv_qstep (c : Cfg) (s : St) (op : QOp) (h : CacheInv c s) : CacheInv c (qstep c s op) := by
  cases op with
  | request d =>
    obtain ⟨bh, rq, e⟩ := requestModule_effect s d
    rw [qstep, e, rmAssign_fst]
    -- of the database a request moves only the next free index
    split <;> exact h
  | touch => exact cacheInv_checkLatest c s h
  | lookup k name =>
    have h1 := cacheInv_checkLatest c s h
    rw [qstep, lookup_fst]
    generalize s.checkLatest c = t at h1 ⊢
    split
    · exact h1
    · -- the rebuilt table is fresh by construction; the others, and the maps, are as they were
      intro k' hk'
      obtain ⟨hdb, -, -, hfresh⟩ := setCache_frame { t with fresh := k :: t.fresh } k (t.freshMap c k)
      rw [hfresh] at hk'
      rw [freshMap_congr c _ t hdb, cache_setCache]
      split
      · next e => rw [e]
      · next ne => exact h1 k' ((List.mem_cons.mp hk').resolve_left ne)

theorem cacheInv_reachable (c : Cfg) (ops : List QOp) : CacheInv c (ops.foldl (qstep c) {}) :=
  reachable_induction (fun _ hk => nomatch hk) (cacheInv_qstep c) ops

/-- the midpoint both binary searches probe -/
theorem mid_spec {b e : Nat} (h : b < e) :
    b ≤ b + (e - b) / 2 ∧ b + (e - b) / 2 < e ∧ (b + (e - b) / 2 = b → e = b + 1) := by omega

theorem fuel_step {b e lo hi fuel : Nat} (hf : e - b < fuel + 1) (h1 : b < lo) (h2 : lo ≤ e) (h3 : b ≤ hi)
    (h4 : hi < e) : e - lo < fuel ∧ hi - b < fuel := by omega

/-- the table interrogate_module emits is strictly ascending by name -/
def SortedNames (names : List (Bytes × Int)) : Prop := names.Pairwise (fun p q => p.1 < q.1)

instance (names : List (Bytes × Int)) : Decidable (SortedNames names) := by
  unfold SortedNames; exact inferInstance

theorem SortedNames.lt {names : List (Bytes × Int)} (h : SortedNames names) {i j : Nat} {p q : Bytes × Int}
    (hij : i < j) (hp : names[i]? = some p) (hq : names[j]? = some q) : p.1 < q.1 := by
  obtain ⟨hi, rfl⟩ := List.getElem?_eq_some_iff.mp hp
  obtain ⟨hj, rfl⟩ := List.getElem?_eq_some_iff.mp hq
  exact List.pairwise_iff_getElem.mp h i j hi hj hij

theorem SortedNames.le {names : List (Bytes × Int)} (h : SortedNames names) {i j : Nat} {p q : Bytes × Int}
    (hij : i ≤ j) (hp : names[i]? = some p) (hq : names[j]? = some q) : p.1 ≤ q.1 := by
  rcases Nat.lt_or_eq_of_le hij with hij | rfl
  · exact List.le_of_lt (h.lt hij hp hq)
  · rw [hp] at hq; cases hq; exact List.le_refl _

/-- The search answers with the offset of an entry bearing the key, or with -1; on a sorted table
-1 means that no entry of `[b, e)` bears the key. -/
theorem bsearchFuel_spec (names : List (Bytes × Int)) (key : Bytes) (fuel b e : Nat)
    (h : e - b < fuel) (hl : e ≤ names.length) :
    (∃ (i : Nat) (off : Int), names[i]? = some (key, off) ∧ bsearchFuel names key fuel b e = some off) ∨
    (bsearchFuel names key fuel b e = some (-1) ∧
      (SortedNames names → ∀ i p, b ≤ i → i < e → names[i]? = some p → p.1 ≠ key)) := by
  fun_induction bsearchFuel names key fuel b e with
  | case1 => exact absurd h (Nat.not_lt_zero _)
  | case2 fuel b e hbe =>
    exact .inr ⟨rfl, fun _ i p h1 h2 => absurd (Nat.lt_of_le_of_lt h1 h2) (Nat.not_lt.mpr hbe)⟩
  | case3 fuel b e hbe mid hnone =>
    have := (mid_spec (Nat.lt_of_not_le hbe)).2.1
    exact absurd (Nat.lt_of_lt_of_le this hl) (Nat.not_lt.mpr (List.getElem?_eq_none_iff.mp hnone))
  | case4 fuel b e hbe mid name off hget hlt ih =>
    -- everything up to `mid` is below the key
    obtain ⟨hm1, hm2, -⟩ := mid_spec (Nat.lt_of_not_le hbe)
    rcases ih (fuel_step h (Nat.lt_succ_of_le hm1) hm2 hm1 hm2).1 hl with hfound | ⟨h1, h2⟩
    · exact .inl hfound
    · refine .inr ⟨h1, fun hs i p hi1 hi2 hp => ?_⟩
      by_cases hi : i ≤ mid
      · exact fun e => List.not_lt.mpr (e ▸ hs.le hi hp hget) hlt
      · exact h2 hs i p (Nat.lt_of_not_le hi) hi2 hp
  | case5 fuel b e hbe mid name off hget _ hgt ih =>
    -- everything from `mid` on is above the key
    obtain ⟨hm1, hm2, -⟩ := mid_spec (Nat.lt_of_not_le hbe)
    rcases ih (fuel_step h (Nat.lt_succ_of_le hm1) hm2 hm1 hm2).2 (Nat.le_trans (Nat.le_of_lt hm2) hl) with
      hfound | ⟨h1, h2⟩
    · exact .inl hfound
    · refine .inr ⟨h1, fun hs i p hi1 hi2 hp => ?_⟩
      by_cases hi : mid ≤ i
      · exact fun e => List.not_lt.mpr (e ▸ hs.le hi hget hp) hgt
      · exact h2 hs i p hi1 (Nat.lt_of_not_le hi) hp
  | case6 fuel b e hbe mid name off hget hlt hgt =>
    rw [List.le_antisymm (List.not_lt.mp hgt) (List.not_lt.mp hlt)] at hget
    exact .inl ⟨mid, off, hget, rfl⟩

/-- the search as `bsearch` starts it: over the whole table, with fuel that is never used up -/
theorem bsearch_spec (names : List (Bytes × Int)) (key : Bytes) :
    (∃ (i : Nat) (off : Int), names[i]? = some (key, off) ∧
      bsearchFuel names key (names.length + 1) 0 names.length = some off) ∨
    (bsearchFuel names key (names.length + 1) 0 names.length = some (-1) ∧
      (SortedNames names → ∀ (i : Nat) p, names[i]? = some p → p.1 ≠ key)) := by
  rcases bsearchFuel_spec names key (names.length + 1) 0 names.length (Nat.lt_succ_self _) (Nat.le_refl _) with
    h | ⟨h1, h2⟩
  · exact .inl h
  · exact .inr ⟨h1, fun hs i p hp => h2 hs i p (Nat.zero_le _) (List.getElem?_eq_some_iff.mp hp).1 hp⟩

end IgVerif
