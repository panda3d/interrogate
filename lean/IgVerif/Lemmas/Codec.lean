import IgVerif.Model.DbFile
import IgVerif.Lemmas.Bytes
/-! Round trip of the generic record codec.  Every layer (atom, sub-record, vector, field, record)
is one statement `RT last dec enc v`; the layers are put together with `RT.seq`. -/
namespace IgVerif

/-- After any whitespace, `d` reads `a` back from `enc` and leaves only whitespace before `rest`
(which the next reader skips) — for every `rest`, or, when `last` (an `int` written without a
separator at the end of its list), for every `rest` that does not start with a digit. -/
def RT {α : Type} (last : Bool) (d : Dec α) (enc : Bytes) (a : α) : Prop :=
  ∀ pre rest, AllSpace pre → (last = true → NoDigitHead rest) →
    ∃ w, AllSpace w ∧ d (pre ++ (enc ++ rest)) = .ok (a, w ++ rest)

/-- `RT false d enc a` without its vacuous hypothesis (`RT.rts`) -/
def RTs {α : Type} (d : Dec α) (enc : Bytes) (a : α) : Prop :=
  ∀ pre rest, AllSpace pre → ∃ w, AllSpace w ∧ d (pre ++ (enc ++ rest)) = .ok (a, w ++ rest)

variable {α β : Type} {d : Dec α} {e e1 e2 : Bytes} {a : α} {g g' : Bool}

theorem RT.rts (h : RT false d e a) : RTs d e a := fun pre rest hp => h pre rest hp nofun

/-- `d`, then `d2`: the one sequencing lemma.  `dk` is any decoder that yields `c` whenever `d` reads
`a` and `d2` then reads `b` — the model writes its sequencing out as `match`es, so `dk` is seldom
literally a `Dec.bind`.  A `d` that needs a non-digit after it may only be followed by nothing. -/
theorem RT.seq {γ : Type} {d2 : Dec β} {dk : Dec γ} {b : β} {c : γ} (h1 : RT g d e1 a)
    (h2 : RT g' d2 e2 b) (he : g = true → e2 = [] ∧ g' = true)
    (hdk : ∀ s r r', d s = .ok (a, r) → d2 r = .ok (b, r') → dk s = .ok (c, r')) :
    RT g' dk (e1 ++ e2) c := by
  intro pre rest hp hr
  obtain ⟨w, hw, h⟩ := h1 pre (e2 ++ rest) hp fun x => by rw [(he x).1]; exact hr (he x).2
  obtain ⟨w', hw', h'⟩ := h2 w rest hw hr
  exact ⟨w', hw', by rw [List.append_assoc, hdk _ _ _ h h']⟩

theorem RT.pure (a : α) : RT g (Dec.pure a) [] a := fun pre _ hp _ => ⟨pre, hp, rfl⟩

theorem RT.bind {k : α → Dec β} {b : β} (h1 : RT false d e1 a) (h2 : RT g (k a) e2 b) :
    RT g (Dec.bind d k) (e1 ++ e2) b :=
  h1.seq h2 nofun fun s r r' h h' => by simp only [Dec.bind, h, h']

theorem RT.map (f : α → β) {df : Dec β} (h : RT g d e a)
    (hdf : ∀ s r, d s = .ok (a, r) → df s = .ok (f a, r)) : RT g df e (f a) := fun pre rest hp hr =>
  let ⟨w, hw, h'⟩ := h pre rest hp hr
  ⟨w, hw, hdf _ _ h'⟩

/-- whitespace written after `enc` is left over, and settles what may follow -/
theorem RT.trail (h : RT g d e a) (c : Nat) (hc : isSpace c = true) : RT g' d (e ++ [c]) a := by
  intro pre rest hp _
  obtain ⟨w, hw, h⟩ := h pre (c :: rest) hp fun _ => noDigitHead_of_space c rest hc
  exact ⟨w ++ [c], allSpace_append hw (allSpace_single hc), by
    rw [List.append_assoc, List.append_assoc]; exact h⟩

theorem RT.lead (h : RT g d e a) (c : Nat) (hc : isSpace c = true) : RT g d ([c] ++ e) a := by
  intro pre rest hp hr
  have := h (pre ++ [c]) rest (allSpace_append hp (allSpace_single hc)) hr
  rwa [List.append_assoc] at this

theorem RT.int (i : Int) (hi : FitsInt i) (sep : Bytes) (hs : AllSpace sep)
    (hl : sep.isEmpty = true → g = true) : RT g decInt (showInt i ++ sep) i := by
  intro pre rest hp hr
  refine ⟨sep, hs, ?_⟩
  rw [List.append_assoc]
  exact decInt_showInt i hi pre _ hp (noDigitHead_append hs fun h => hr (hl (h ▸ rfl)))

theorem RT.int1 (i : Int) (hi : FitsInt i) (c : Nat) (hc : isSpace c = true) :
    RT g decInt (showInt i ++ [c]) i :=
  RT.int i hi [c] (allSpace_single hc) nofun

theorem fitsInt_natCast {n : Nat} (h : (n : Int) ≤ intMax) : FitsInt (n : Int) :=
  ⟨by unfold intMin; omega, h⟩

theorem RT.nat (n : Nat) (hn : (n : Int) ≤ intMax) (c : Nat) (hc : isSpace c = true) :
    RT g decInt (showNat n ++ [c]) (n : Int) :=
  showInt_ofNat n ▸ RT.int1 n (fitsInt_natCast hn) c hc

/-- The length in front of a string, as both `idf_input_string`s read it.  Unlike `RT.nat` this says
exactly what is left: the readers go on byte by byte and skip nothing. -/
theorem decInt_nat (n : Nat) (hn : (n : Int) ≤ intMax) (c : Nat) (hc : isSpace c = true)
    (pre t : Bytes) (hp : AllSpace pre) :
    decInt (pre ++ (showNat n ++ c :: t)) = .ok ((n : Int), c :: t) := by
  have := decInt_showInt n (fitsInt_natCast hn) pre (c :: t) hp (noDigitHead_of_space c t hc)
  rwa [showInt_ofNat] at this

theorem takeN_append (s rest : Bytes) : takeN s.length (s ++ rest) = some (s, rest) := by
  induction s with
  | nil => rfl
  | cons c cs ih => rw [List.length_cons, List.cons_append, takeN, ih]

theorem RT.str (ws : Nat) (hws : isSpace ws = true) (s : Bytes) (hs : (s.length : Int) ≤ intMax) :
    RT g decStr (encStr ws s) s := by
  intro pre rest hp _
  -- an empty string is not followed by a second separator
  refine ⟨if s.isEmpty then [] else [ws], ?_, ?_⟩
  · split
    · exact allSpace_nil
    · exact allSpace_single hws
  have e : encStr ws s ++ rest =
      showNat s.length ++ ws :: (s ++ ((if s.isEmpty then [] else [ws]) ++ rest)) := by
    cases s <;> simp [encStr]
  rw [e, decStr, decInt_nat s.length hs ws hws pre _ hp]
  simp only [Int.toNat_natCast, takeN_append]

theorem RT.atom (last : Bool) (a : Atom) (v : AVal) (hwf : atomOk last a = true) (hc : AtomConf a v) :
    RT last (decAtom a) (encAtom a v) v := by
  fun_cases AtomConf a v
  · simp only [atomOk, Bool.and_eq_true, Bool.or_eq_true, Bool.not_eq_true'] at hwf
    exact (RT.int _ hc _ (allSpace_of_all hwf.1) fun h => hwf.2.resolve_right (by simp [h])).map AVal.int
      fun s r h => by simp only [decAtom, h]
  · exact (RT.str _ hwf _ hc).map AVal.str fun s r h => by simp only [decAtom, h]
  · simp [AtomConf] at hc

theorem RT.atoms (as : List Atom) (vs : List AVal) (hwf : atomsWF as = true) (hc : AtomsConf as vs) :
    RT true (decAtoms as) (encAtoms as vs) vs := by
  fun_induction AtomsConf as vs
  · exact RT.pure []
  · next a as v vs ih =>
    simp only [atomsWF, Bool.and_eq_true] at hwf
    exact (RT.atom _ a v hwf.1 hc.1).seq (ih hwf.2 hc.2)
      (fun h => ⟨(by cases as with | nil => rfl | cons => cases h), rfl⟩)
      fun s r r' h h' => by simp only [decAtoms, h, h']
  · simp at hc

theorem RT.list {encE : α → Bytes} (l : List α) (h : ∀ a ∈ l, RT false d (encE a) a) :
    RT g (decN d l.length) (encList encE l) l := by
  induction l with
  | nil => exact RT.pure []
  | cons a as ih =>
    exact (h a List.mem_cons_self).seq (ih fun x hx => h x (List.mem_cons_of_mem _ hx)) nofun
      fun s r r' h h' => by simp only [List.length_cons, decN, h, h']

/-- `idf_output_vector` / `idf_input_vector` -/
theorem RT.vec {encE : α → Bytes} (l : List α) (hl : (l.length : Int) ≤ intMax)
    (h : ∀ a ∈ l, RT false d (encE a) a) :
    RT g (decVec d) (showNat l.length ++ [32] ++ encList encE l) l :=
  (RT.nat (g := false) l.length hl 32 (by decide)).seq (RT.list l h) nofun
    fun s r r' h h' => by simp only [decVec, h]; exact h'

/-- an `int` that writer and reader skip alike when `c` fails; the member then keeps `dflt`
(the `intIf` and `intSince` fields) -/
theorem RT.gated (c : Prop) [Decidable c] (i dflt : Int) (sep : Bytes)
    (hs : sep.all isSpace = true ∧ sep.isEmpty = false) (hi : FitsInt i) (hd : ¬c → i = dflt)
    {dk : Dec Val} (h1 : c → ∀ s r, decInt s = .ok (i, r) → dk s = .ok (.a (.int i), r))
    (h0 : ¬c → ∀ s, dk s = .ok (.a (.int dflt), s)) :
    RT g dk (if c then showInt i ++ sep else []) (.a (.int i)) := by
  by_cases hc : c
  · rw [if_pos hc]
    exact (RT.int i hi sep (allSpace_of_all hs.1) fun h => by rw [hs.2] at h; cases h).map
      (fun i => Val.a (.int i)) (h1 hc)
  · rw [if_neg hc, hd hc]
    exact fun pre rest hp _ => ⟨pre, hp, h0 hc _⟩

theorem RT.field (minor : Nat) (e : Env) (last : Bool) (f : Field) (v : Val)
    (hwf : fieldOk last f = true) (hc : FieldConf minor e f v) :
    RT last (decField minor e f) (encField minor e f v) v := by
  fun_cases FieldConf minor e f v
  · exact (RT.atom last _ _ hwf hc).map Val.a fun s r h => by simp only [decField, h]
  · exact (RT.vec _ hc.1 fun i hi => RT.int1 i (hc.2 i hi) 32 (by decide)).map Val.ints
      fun s r h => by simp only [decField, h]
  · exact (RT.vec _ hc.1 fun s hs => RT.str 32 (by decide) s (hc.2 s hs)).map Val.strs
      fun s r h => by simp only [decField, h]
  · exact (RT.vec _ hc.1 fun r hr => (RT.atoms _ r hwf (hc.2 r hr)).trail 32 (by decide)).map Val.recs
      fun s r h => by simp only [decField, h]
  · next n flag mask dflt sep i =>
    simp only [fieldOk, Bool.and_eq_true, Bool.not_eq_true'] at hwf
    exact RT.gated (flagSet e flag mask = true) i dflt sep hwf hc.1 (fun h => hc.2 (Bool.eq_false_iff.mpr h))
      (fun h s r hd => by simp only [decField, h, if_true, hd])
      fun h s => by simp only [decField, h, Bool.false_eq_true, if_false]
  · next n m sep i =>
    simp only [fieldOk, Bool.and_eq_true, Bool.not_eq_true'] at hwf
    exact RT.gated (minor ≥ m) i 0 sep hwf hc.1 (fun h => hc.2 (Nat.lt_of_not_ge h))
      (fun h s r hd => by simp only [decField, h, if_true, hd]) fun h s => by simp only [decField, h, if_false]
  · simp [FieldConf] at hc

theorem RT.fields (minor : Nat) (e : Env) (fs : List Field) (vs : List Val)
    (hwf : fieldsWF fs = true) (hc : FieldsConf minor e fs vs) :
    RT true (decFields minor e fs) (encFields minor e fs vs) vs := by
  fun_induction FieldsConf minor e fs vs
  · exact RT.pure []
  · next e f fs v vs ih =>
    simp only [fieldsWF, Bool.and_eq_true] at hwf
    exact (RT.field minor e _ f v hwf.1 hc.1).seq (ih hwf.2 hc.2)
      (fun h => ⟨(by cases fs with | nil => rfl | cons => cases h), rfl⟩)
      fun s r r' h h' => by simp only [decFields, h, h']
  · simp at hc

theorem decFields_encFields (minor : Nat) (fs : List Field) (e : Env) (vs : List Val)
    (hwf : fieldsWF fs = true) (hc : FieldsConf minor e fs vs)
    (pre rest : Bytes) (hp : AllSpace pre) (hr : NoDigitHead rest) :
    ∃ w, AllSpace w ∧ decFields minor e fs (pre ++ (encFields minor e fs vs ++ rest)) = .ok (vs, w ++ rest) :=
  RT.fields minor e fs vs hwf hc pre rest hp fun _ => hr

end IgVerif
