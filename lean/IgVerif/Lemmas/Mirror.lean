import IgVerif.Schema
/-! What `mergeSchema` yields when it yields anything: the layout read off `output()` carrying the
version gates read off `input()`.  The merge itself compares every member name of the two layouts
(string comparisons, dear for the kernel); `gateSchema` compares nothing, so once `schema_mirror`
has been evaluated, facts about `schema` are evaluated on `gateSchema` (`schema_eq`). -/
namespace IgVerif

def gateField (o : Field) : Field → Field
  | .intSince _ m _ => match o with
    | .atom (.int n sep) => .intSince n m sep
    | _ => o
  | _ => o

def gateSchema (o i : Schema) : Schema :=
  ⟨List.zipWith gateField o.function i.function, List.zipWith gateField o.wrapper i.wrapper,
   List.zipWith gateField o.type i.type, List.zipWith gateField o.manifest i.manifest,
   List.zipWith gateField o.element i.element, List.zipWith gateField o.makeSeq i.makeSeq⟩

theorem mergeAtom_eq {a b c : Atom} (h : mergeAtom a b = some c) : c = a := by
  cases a <;> cases b <;> simp only [mergeAtom, reduceCtorEq] at h <;> split at h <;> simp_all

theorem mergeAtoms_eq {as bs cs : List Atom} (h : mergeAtoms as bs = some cs) : cs = as := by
  fun_induction mergeAtoms as bs generalizing cs
  · cases h; rfl
  · next hcs hc ih => cases h; rw [mergeAtom_eq hc, ih hcs]
  · cases h
  · cases h

theorem mergeField_eq {o i f : Field} (h : mergeField o i = some f) : f = gateField o i := by
  unfold mergeField at h
  split at h
  · obtain ⟨c, hc, rfl⟩ := Option.map_eq_some_iff.mp h; rw [mergeAtom_eq hc]; rfl
  · split at h <;> simp_all [gateField]
  · split at h <;> simp_all [gateField]
  · split at h <;> simp_all [gateField]
  · split at h
    · obtain ⟨c, hc, rfl⟩ := Option.map_eq_some_iff.mp h; rw [mergeAtoms_eq hc]; rfl
    · cases h
  · split at h <;> simp_all [gateField]
  · cases h

theorem mergeFields_eq {os is fs : List Field} (h : mergeFields os is = some fs) :
    fs = List.zipWith gateField os is := by
  fun_induction mergeFields os is generalizing fs
  · cases h; rfl
  · next hcs hc ih => cases h; rw [mergeField_eq hc, ih hcs]; rfl
  · cases h
  · cases h

theorem mergeSchema_eq {o i s : Schema} (h : mergeSchema o i = some s) : s = gateSchema o i := by
  unfold mergeSchema at h
  split at h
  · next h1 h2 h3 h4 h5 h6 =>
    cases h
    rw [mergeFields_eq h1, mergeFields_eq h2, mergeFields_eq h3, mergeFields_eq h4, mergeFields_eq h5,
      mergeFields_eq h6]; rfl
  · cases h

theorem schema_mirror : (mergeSchema Gen.outSchema Gen.inSchema).isSome = true := by decide +kernel

theorem schema_eq : schema = gateSchema Gen.outSchema Gen.inSchema := by
  obtain ⟨s, hs⟩ := Option.isSome_iff_exists.mp schema_mirror
  rw [schema, hs, mergeSchema_eq hs]; rfl

end IgVerif
