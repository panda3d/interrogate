import IgVerif.Model.DbFile
import IgVerif.Lemmas.Codec
/-! File-level round trip: `decHeader`/`decBody` invert `encFile`. -/
namespace IgVerif

theorem RT.cstr (s : Bytes) (hs : CStrConf s) : RT false decCStr (encCStr s) s := by
  intro pre rest hp _
  refine ⟨[32], allSpace_single (by decide), ?_⟩
  cases s with
  | nil =>
    -- "0 " is `showNat 0` and its separator; nothing is skipped after a zero length
    rw [decCStr, show encCStr [] ++ rest = showNat 0 ++ 32 :: rest from rfl,
      decInt_nat 0 hs 32 (by decide) pre rest hp]
    rfl
  | cons c cs =>
    have e : encCStr (c :: cs) ++ rest = showNat (c :: cs).length ++ 32 :: (c :: cs ++ 32 :: rest) := by
      simp [encCStr]
    have hne : ¬ (((c :: cs).length : Int) == 0) = true := by simp; omega
    have hnn : ¬ ((c :: cs).length : Int) < 0 := by omega
    rw [decCStr, e, decInt_nat _ hs 32 (by decide) pre _ hp]
    simp only [if_neg hne, if_neg hnn, Int.toNat_natCast, takeN_append]
    rfl

theorem RT.entry (minor : Nat) (spec : List Field) (e : Entry) (hwf : fieldsWF spec = true)
    (hc : EntryConf minor spec e) : RT false (decEntry minor spec) (encEntry minor spec e) e := by
  obtain ⟨idx, vals⟩ := e
  have := (RT.int1 idx hc.1 32 (by decide)).bind (k := fun idx =>
    Dec.bind (decFields minor [] spec) fun vals => Dec.pure (idx, vals))
    (((RT.fields minor [] spec vals hwf hc.2).trail 10 (by decide)).bind (RT.pure (g := false) _))
  simpa only [encEntry, decEntry, List.append_nil, List.append_assoc] using this

theorem RT.section (minor : Nat) (spec : List Field) (l : List Entry) (hwf : fieldsWF spec = true)
    (hc : SectionConf minor spec l) :
    RT false (decSection minor spec) (encSection minor spec l) l := by
  unfold decSection encSection
  exact (RT.nat l.length hc.1 10 (by decide)).bind (k := fun n => decN (decEntry minor spec) n.toNat)
    (RT.list l fun e he => RT.entry minor spec e hwf (hc.2 e he))

theorem RTs.section (minor : Nat) (spec : List Field) (l : List Entry) (hwf : fieldsWF spec = true)
    (hc : SectionConf minor spec l) :
    RTs (decSection minor spec) (encSection minor spec l) l :=
  (RT.section minor spec l hwf hc).rts

theorem RT.body (minor : Nat) (sch : Schema) (hs : SchemaWF sch = true) (f : DbFile)
    (hc : FileConf minor sch f) :
    RT false (decBody sch minor f.fileId) (encBody minor sch f) f := by
  obtain ⟨_, hl, hh, hmo, c1, c2, c3, c4, c5, c6⟩ := hc
  simp only [SchemaWF, Bool.and_eq_true] at hs
  obtain ⟨⟨⟨⟨⟨⟨⟨⟨⟨⟨⟨w1, w2⟩, w3⟩, w4⟩, w5⟩, w6⟩, _⟩, _⟩, _⟩, _⟩, _⟩, _⟩ := hs
  have sec := RT.section minor
  unfold decBody encBody
  -- the "\n" after the module strings is leading whitespace of the first section
  exact (RT.cstr f.lib hl).bind <| (RT.cstr f.hash hh).bind <| (RT.cstr f.mod hmo).bind <|
    RT.bind ((sec _ _ w1 c1).lead 10 (by decide)) <| RT.bind (sec _ _ w2 c2) <| RT.bind (sec _ _ w3 c3) <|
    RT.bind (sec _ _ w4 c4) <| RT.bind (sec _ _ w5 c5) <| RT.bind (sec _ _ w6 c6) <| RT.pure f

theorem RTs.header (fid : Int) (hi : FitsInt fid) (minor : Nat) (hm : minor ≤ curMinor) :
    RTs decHeader (encHeader fid minor) (fid, curMajor, (minor : Int)) := by
  have hfit : (minor : Int) ≤ intMax := by unfold intMax; unfold curMinor at hm; omega
  unfold decHeader encHeader
  exact ((RT.int1 fid hi 10 (by decide)).bind <| (RT.int1 curMajor (by decide) 32 (by decide)).bind <|
    (RT.int1 (minor : Int) (fitsInt_natCast hfit) 10 (by decide)).bind <|
    RT.pure (g := false) (fid, curMajor, (minor : Int))).rts

/-- Loading a file written in any format 3.m (m ≤ current) yields exactly the
database that was written; the error flag is raised iff the identifier check fails. -/
theorem load_encFileAs (minor : Nat) (hm : minor ≤ curMinor) (sch : Schema) (hs : SchemaWF sch = true)
    (f : DbFile) (hc : FileConf minor sch f) (expectId : Int) :
    load sch expectId (encFileAs minor sch f) =
      { errorFlag := expectId != 0 && f.fileId != expectId, merged := some f } := by
  obtain ⟨w, hw, h1⟩ := RTs.header f.fileId hc.1 minor hm [] (encBody minor sch f ++ []) allSpace_nil
  obtain ⟨w', _, h2⟩ := RT.body minor sch hs f hc w [] hw nofun
  unfold load encFileAs
  simp only [List.nil_append, List.append_nil] at h1 h2
  rw [h1]
  have hmaj : (curMajor != curMajor) = false := by decide
  have hmin : ¬ ((minor : Int) > (curMinor : Int)) := by omega
  simp only [hmaj, hmin, Bool.false_or, decide_false, Bool.false_eq_true, if_false, Int.toNat_natCast, h2]

end IgVerif
