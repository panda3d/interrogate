import IgVerif.Model.Closed
import IgVerif.Lemmas.Remap
/-!
# `remap_indices` keeps a closed database closed

When every index-typed member is one that `remap_indices()` passes through the remapper (coverage,
decided on the extracted member lists by `c11_field_coverage`), the references of a remapped
record are the old references mapped (`refsRec_remap`); the remapper sends keys to keys of the
same kind (`Lemmas/Remap`).
-/
namespace IgVerif

/-- every index-typed member (per `im`) is remapped (per `members`) -/
def Covers (im : List (String × String)) (members : List String) : Prop :=
  ∀ n t, targetOf im n = some t → members.contains n = true

theorem covers_none {im : List (String × String)} {members : List String} (hc : Covers im members)
    {n : String} (h : members.contains n = false) : targetOf im n = none := by
  cases ht : targetOf im n with
  | none => rfl
  | some t => rw [hc n t ht] at h; cases h

theorem covers_of_all (im : List (String × String)) (members : List String)
    (h : (im.all fun m => members.contains m.1) = true) : Covers im members := by
  intro n t ht
  unfold targetOf at ht
  cases hf : im.find? (fun p => p.1 == n) with
  | none => rw [hf] at ht; cases ht
  | some p =>
    have hn : p.1 = n := by simpa using List.find?_some hf
    exact hn ▸ List.all_eq_true.mp h p (List.mem_of_find?_eq_some hf)

section
variable (im : List (String × String)) (members : List String) (rm : Remap)

/-- the references one member holds: the head of the `cons` case of `refsRec` -/
def refsVal (f : Field) (v : Val) : List (String × Int) :=
  match f, v with
  | .recs _ sub, .recs l => l.flatMap (refsAtoms im (fieldName f) sub)
  | _, .a (.int i) => (match targetOf im (fieldName f) with | some t => [(t, i)] | none => [])
  | _, .ints l => (match targetOf im (fieldName f) with | some t => l.map (fun i => (t, i)) | none => [])
  | _, _ => []

/-- one member after `remap_indices`: the head of the `cons` case of `remapRec` -/
def remapVal (f : Field) (v : Val) : Val :=
  match f, v with
  | .recs _ sub, .recs l => Val.recs (l.map (remapAtoms rm members (fieldName f) sub))
  | _, .a (.int i) => if members.contains (fieldName f) then .a (.int (rm.mapFrom i)) else v
  | _, .ints l => if members.contains (fieldName f) then .ints (l.map rm.mapFrom) else v
  | _, _ => v

theorem refsRec_cons (f : Field) (fs : List Field) (v : Val) (vs : List Val) :
    refsRec im (f :: fs) (v :: vs) = refsVal im f v ++ refsRec im fs vs := rfl

theorem remapRec_cons (f : Field) (fs : List Field) (v : Val) (vs : List Val) :
    remapRec rm members (f :: fs) (v :: vs) = remapVal members rm f v :: remapRec rm members fs vs := rfl

variable {im members}

theorem refsAtoms_remap (vec : String) (hc : Covers im members) (as : List Atom) (vs : List AVal) :
    refsAtoms im vec as (remapAtoms rm members vec as vs) =
      (refsAtoms im vec as vs).map (fun tv => (tv.1, rm.mapFrom tv.2)) := by
  induction as generalizing vs with
  | nil => cases vs <;> rfl
  | cons a as ih =>
    cases vs with
    | nil => rfl
    | cons v vs =>
      cases v with
      | str s => simp only [remapAtoms, refsAtoms, ih]
      | int i =>
        rw [remapAtoms]
        cases hm : members.contains (vec ++ "." ++ atomName a) with
        | true =>
          rw [if_pos rfl, refsAtoms, refsAtoms, ih, List.map_append]
          cases targetOf im (vec ++ "." ++ atomName a) <;> rfl
        | false => rw [if_neg Bool.false_ne_true, refsAtoms, refsAtoms, ih, covers_none hc hm]; rfl

/-- A member that holds an index is remapped (`hc`), one that is not remapped holds none
(`covers_none`).  The layout matters only for sub-records. -/
theorem refsVal_remap (hc : Covers im members) (f : Field) (v : Val) :
    refsVal im f (remapVal members rm f v) = (refsVal im f v).map (fun tv => (tv.1, rm.mapFrom tv.2)) := by
  cases v with
  | a av =>
    cases av with
    | str s => cases f <;> rfl
    | int i =>
      simp only [remapVal]
      cases hm : members.contains (fieldName f) with
      | true => simp only [if_true, refsVal]; cases targetOf im (fieldName f) <;> rfl
      | false => simp only [Bool.false_eq_true, if_false, refsVal, covers_none hc hm]; rfl
  | ints l =>
    simp only [remapVal]
    cases hm : members.contains (fieldName f) with
    | true =>
      simp only [if_true, refsVal]
      cases targetOf im (fieldName f) with
      | none => rfl
      | some t => simp only [List.map_map]; rfl
    | false => simp only [Bool.false_eq_true, if_false, refsVal, covers_none hc hm]; rfl
  | strs l => cases f <;> rfl
  | recs l =>
    cases f with
    | recs n sub => simp only [refsVal, remapVal, List.flatMap_map, List.map_flatMap, refsAtoms_remap rm _ hc]
    | _ => rfl

theorem refsRec_remap (im : List (String × String)) (members : List String) (rm : Remap)
    (hc : Covers im members) (fs : List Field) (vs : List Val) :
    refsRec im fs (remapRec rm members fs vs) =
      (refsRec im fs vs).map (fun tv => (tv.1, rm.mapFrom tv.2)) := by
  induction fs generalizing vs with
  | nil => cases vs <;> rfl
  | cons f fs ih =>
    cases vs with
    | nil => rfl
    | cons v vs => rw [remapRec_cons, refsRec_cons, refsRec_cons, refsVal_remap rm hc, ih, List.map_append]

end

def Db.RefsOk (sch : Schema) (ic : IndexCfg) (db : Db) : Prop :=
  ∀ k, ∀ r ∈ (db.map k).map (·.2), ∀ tv ∈ refsRec (ic.of k) (sch.of k) r, tv.2 = 0 ∨ tv.2 ∈ db.keys tv.1

def Db.EnumsOk (db : Db) : Prop :=
  (∀ i ∈ db.globalTypes, i ∈ db.keys "type") ∧ (∀ i ∈ db.allTypes, i ∈ db.keys "type") ∧
  (∀ i ∈ db.globalFunctions, i ∈ db.keys "function") ∧ (∀ i ∈ db.allFunctions, i ∈ db.keys "function") ∧
  (∀ i ∈ db.globalManifests, i ∈ db.keys "manifest") ∧ (∀ i ∈ db.globalElements, i ∈ db.keys "element")

theorem closedB_iff (sch : Schema) (ic : IndexCfg) (db : Db) :
    db.closedB sch ic = true ↔ db.RefsOk sch ic ∧ db.EnumsOk := by
  unfold Db.closedB Db.danglingRefs Db.danglingEnums Db.RefsOk Db.EnumsOk
  simp only [Bool.and_eq_true, List.isEmpty_iff, List.append_eq_nil_iff, List.flatMap_eq_nil_iff,
    List.map_eq_nil_iff, List.filter_eq_nil_iff, bne_iff_ne, ne_eq, Bool.not_eq_true', not_and,
    Bool.not_eq_false, List.contains_iff_mem, Decidable.or_iff_not_imp_left, List.forall_mem_map, and_assoc]
  exact and_congr_left' ⟨fun h k => h k (mem_allKinds k), fun h k _ => h k⟩

/-- **`remap_indices` keeps a closed database closed**, provided every index-typed member is one
the class's `remap_indices()` remaps (`hcov`; decided for the extracted lists by
`c11_field_coverage`), no index is used by two kinds and 0 ("none") is not an index. -/
theorem closed_remap (sch : Schema) (ic : IndexCfg) (rc : RemapCfg) (db : Db) (first : Int)
    (hcov : ∀ k, Covers (ic.of k) (rc.of k))
    (hd : db.kindsDisjointB = true) (h0 : ∀ k, (0 : Int) ∉ (db.map k).map (·.1))
    (hcl : db.closedB sch ic = true) :
    (db.remapIndices sch rc first).1.closedB sch ic = true := by
  rw [closedB_iff] at hcl ⊢
  obtain ⟨hr, he⟩ := hcl
  refine ⟨?_, ?_⟩
  · intro k r' hr' tv' htv'
    rw [records_remap] at hr'
    obtain ⟨p, hp, rfl⟩ := List.mem_map.mp hr'
    rw [refsRec_remap _ _ _ (hcov k)] at htv'
    obtain ⟨tv, htv, rfl⟩ := List.mem_map.mp htv'
    rcases hr k p.2 (List.mem_map_of_mem hp) tv htv with h | h
    · exact Or.inl (h ▸ finalRm_other db first 0 h0)
    · exact Or.inr (finalRm_sends sch rc db first hd tv.1 tv.2 h)
  · obtain ⟨e1, e2, e3, e4, e5, e6⟩ := he
    have key : ∀ (t : String) (l : List Int), (∀ i ∈ l, i ∈ db.keys t) →
        ∀ i ∈ l.map (db.finalRm first).mapFrom, i ∈ (db.remapIndices sch rc first).1.keys t :=
      fun t l hl => List.forall_mem_map.mpr fun i hi => finalRm_sends sch rc db first hd t i (hl i hi)
    exact ⟨key "type" _ e1, key "type" _ e2, key "function" _ e3, key "function" _ e4,
      key "manifest" _ e5, key "element" _ e6⟩

end IgVerif
