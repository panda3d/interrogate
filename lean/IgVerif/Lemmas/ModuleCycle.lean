import IgVerif.Lemmas.Deps
/-! The cycle search `findCycle`.  It changes the map only by looking keys up (`Ext`), and what
it reports is a closed walk of the map, so that the edge the loop then erases lies on a cycle
(`findCycle_spec`).  When every dependency that is a key has dependencies of its own, its first
descent cannot come back empty-handed (`findCycle_descends`): that is what makes the loop end. -/
namespace IgVerif.MO

/-- what a cycle search may change -/
structure Ext (d d' : Deps) : Prop where
  has_mono : ∀ k, d.has k = true → d'.has k = true
  targets : d'.targets = d.targets
  nu_le : nu d' ≤ nu d
  nodup : d.keys.Nodup → d'.keys.Nodup
  get : ∀ k, d'.get k = d.get k

theorem Ext.refl (d : Deps) : Ext d d := ⟨fun _ h => h, rfl, Nat.le_refl _, fun h => h, fun _ => rfl⟩

theorem Ext.trans {d d1 d2 : Deps} (h1 : Ext d d1) (h2 : Ext d1 d2) : Ext d d2 :=
  ⟨fun k h => h2.has_mono k (h1.has_mono k h), h2.targets.trans h1.targets, Nat.le_trans h2.nu_le h1.nu_le,
   fun h => h2.nodup (h1.nodup h), fun k => (h2.get k).trans (h1.get k)⟩

theorem Ext.edges {d d' : Deps} (h : Ext d d') : d'.edges = d.edges := by
  rw [← targets_length, ← targets_length, h.targets]

/-- consecutive elements of the search path are dependency edges -/
def Linked (d : Deps) : List String → Prop
  | [] => True
  | [_] => True
  | a :: b :: t => b ∈ d.get a ∧ Linked d (b :: t)

inductive Reach (d : Deps) : String → String → Prop
  | refl (x : String) : Reach d x x
  | step {x y z : String} : y ∈ d.get x → Reach d y z → Reach d x z

theorem linked_congr {d d' : Deps} (h : ∀ k, d'.get k = d.get k) (path : List String) (hl : Linked d path) :
    Linked d' path := by
  induction path with
  | nil => trivial
  | cons a t ih =>
    cases t with
    | nil => trivial
    | cons b t => exact ⟨by rw [h]; exact hl.1, ih hl.2⟩

theorem linked_snoc {d : Deps} {path : List String} {last x : String} (hl : Linked d path)
    (hlast : path.getLast? = some last) (hx : x ∈ d.get last) : Linked d (path ++ [x]) := by
  induction path with
  | nil => simp at hlast
  | cons a t ih =>
    cases t with
    | nil =>
      obtain rfl : a = last := by simpa using hlast
      exact ⟨hx, trivial⟩
    | cons b t => exact ⟨hl.1, ih hl.2 (by simpa using hlast)⟩

theorem linked_reach (d : Deps) (u v : String) (l : List String) (h : Linked d (u :: (l ++ [v]))) : Reach d u v := by
  induction l generalizing u with
  | nil => exact Reach.step h.1 (Reach.refl v)
  | cons w l ih => exact Reach.step h.1 (ih w h.2)

/-- the reported cycle is a closed walk `x → … → x` of the map -/
def CycleOk (d : Deps) (c : List String) : Prop := ∃ x mid, c = x :: (mid ++ [x]) ∧ Linked d c

theorem CycleOk.first_edge {d : Deps} {c : List String} (h : CycleOk d c) :
    ∃ a b tl, c = a :: b :: tl ∧ b ∈ d.get a ∧ Reach d b a := by
  obtain ⟨x, mid, rfl, hl⟩ := h
  cases mid with
  | nil => exact ⟨x, x, [], rfl, hl.1, Reach.refl x⟩
  | cons m ms => exact ⟨x, m, ms ++ [x], rfl, hl.1, linked_reach d m x ms hl.2⟩

/-- where a search stands: `path` is a walk of the map that ends in `last`, and `rest` are the
dependencies of `last` still to be tried -/
structure At (d : Deps) (path : List String) (last : String) (rest : List String) : Prop where
  linked : Linked d path
  ends : path.getLast? = some last
  deps : ∀ x ∈ rest, x ∈ d.get last

theorem At.tail {d : Deps} {path rest : List String} {last x : String} (h : At d path last (x :: rest)) :
    At d path last rest :=
  ⟨h.linked, h.ends, fun y hy => h.deps y (List.mem_cons_of_mem _ hy)⟩

theorem At.congr {d d' : Deps} {path rest : List String} {last : String} (e : ∀ k, d'.get k = d.get k)
    (h : At d path last rest) : At d' path last rest :=
  ⟨linked_congr e _ h.linked, h.ends, fun y hy => by rw [e]; exact h.deps y hy⟩

theorem At.descend {d : Deps} {path rest : List String} {last x : String} (h : At d path last (x :: rest)) :
    Ext d (d.touch x) ∧ At (d.touch x) (path ++ [x]) x ((d.touch x).get x) :=
  have hx := h.deps x (List.mem_cons_self ..)
  ⟨⟨fun k h => by simp [touch_eq_set, has_set, h], targets_touch d x, nu_touch_le d x (mem_targets d last x hx),
      keys_nodup_touch d x, get_touch d x⟩,
    linked_congr (get_touch d x) _ (linked_snoc h.linked h.ends hx), by simp, fun _ h => h⟩

theorem At.closed {d : Deps} {path rest : List String} {last x : String} (h : At d path last (x :: rest))
    (hm : x ∈ path) :
    CycleOk d (path.dropWhile (fun y => y != x) ++ [x]) := by
  obtain ⟨hl, hlast, hx⟩ := h
  induction path with
  | nil => simp at hm
  | cons y t ih =>
    by_cases e : y = x
    · subst e
      rw [List.dropWhile_cons, if_neg (by simp)]
      exact ⟨y, t, rfl, linked_snoc hl hlast (hx y (List.mem_cons_self ..))⟩
    · rw [List.dropWhile_cons, if_pos (by simpa using e)]
      have hm' : x ∈ t := (List.mem_cons.mp hm).resolve_left (Ne.symm e)
      cases t with
      | nil => simp at hm'
      | cons z t => exact ih hm' hl.2 (by simpa using hlast)

theorem findCycle_spec (fuel : Nat) (d : Deps) (vis path rest : List String) (last : String)
    (h : At d path last rest) :
    Ext d (findCycle fuel d vis path rest).1 ∧
      ∀ c, (findCycle fuel d vis path rest).2.2 = some c → CycleOk (findCycle fuel d vis path rest).1 c := by
  fun_induction findCycle fuel d vis path rest generalizing last with
  | case1 | case2 => exact ⟨Ext.refl _, nofun⟩
  | case3 fuel d vis path x rest hc =>
    refine ⟨Ext.refl d, fun c hc' => ?_⟩
    obtain rfl : _ = c := Option.some.inj hc'
    exact h.closed (by simpa using hc)
  | case4 fuel d vis path x rest _ _ ih => exact ih last h.tail
  | case5 fuel d vis path x rest _ _ d₁ d' vis' c heq ih =>
    obtain ⟨e1, h1⟩ := h.descend
    have := ih x h1
    rw [heq] at this
    exact ⟨e1.trans this.1, this.2⟩
  | case6 fuel d vis path x rest _ _ d₁ d' vis' heq ih1 ih2 =>
    obtain ⟨e1, h1⟩ := h.descend
    have := ih1 x h1
    rw [heq] at this
    have e2 : Ext d d' := e1.trans this.1
    have := ih2 last (h.tail.congr e2.get)
    exact ⟨e2.trans this.1, this.2⟩

theorem findCycle_get (fuel : Nat) (d : Deps) (vis path rest : List String) (k : String) :
    (findCycle fuel d vis path rest).1.get k = d.get k := by
  fun_induction findCycle fuel d vis path rest with
  | case1 | case2 | case3 => rfl
  | case4 _ _ _ _ _ _ _ _ ih => exact ih
  | case5 _ d _ _ x _ _ _ _ _ _ _ heq ih => rw [heq] at ih; exact ih.trans (get_touch d x k)
  | case6 _ d _ _ x _ _ _ _ _ _ heq ih1 ih2 => rw [heq] at ih1; exact ih2.trans (ih1.trans (get_touch d x k))

theorem findCycle_cycle (fuel : Nat) (d : Deps) (vis pre : List String) (last : String) (rest : List String)
    (hrest : ∀ x ∈ rest, x ∈ d.get last) (hlink : Linked d (pre ++ [last])) :
    ∀ c, (findCycle fuel d vis (pre ++ [last]) rest).2.2 = some c → CycleOk (findCycle fuel d vis (pre ++ [last]) rest).1 c :=
  (findCycle_spec fuel d vis _ rest last ⟨hlink, by simp, hrest⟩).2

theorem path_length_le (d : Deps) (path : List String) (hnd : path.Nodup) (hk : ∀ p ∈ path, d.has p = true) :
    path.length ≤ d.length := by
  rw [length_eq_keys]
  exact List.Nodup.length_le_of_subset hnd fun p hp => (has_iff d p).mp (hk p hp)

theorem nodup_snoc {l : List String} {x : String} (h : l.Nodup) (hx : x ∉ l) : (l ++ [x]).Nodup :=
  (List.perm_append_singleton x l).nodup_iff.mpr (List.nodup_cons.mpr ⟨hx, h⟩)

/-- every dependency that is a key has dependencies of its own: so it is after a pass that emitted nothing -/
def Stuck (d : Deps) : Prop := ∀ a b, b ∈ d.get a → d.has b = true → d.get b ≠ []

/-- In a stuck map the search cannot return from its first descent empty-handed: each library it
steps to is new to the path (`vis ⊆ path`), so it is either a missing key, whose insertion lowers
`nu`, or a key with dependencies to descend into; and the path cannot outgrow the keys. -/
theorem findCycle_descends (fuel : Nat) (d : Deps) (vis path rest : List String) (last : String)
    (h : At d path last rest) (hne : rest ≠ [])
    (hpath : ∀ p ∈ path, d.has p = true) (hnd : path.Nodup) (hvis : ∀ v ∈ vis, v ∈ path)
    (hstuck : Stuck d) (hfuel : d.length < fuel + path.length) :
    nu (findCycle fuel d vis path rest).1 < nu d ∨ (findCycle fuel d vis path rest).2.2 ≠ none := by
  fun_induction findCycle fuel d vis path rest generalizing last with
  | case1 => have := path_length_le _ _ hnd hpath; omega
  | case2 => exact absurd rfl hne
  | case3 | case5 => exact Or.inr nofun
  | case4 fuel d vis path x rest hc hv => exact absurd (hvis x (by simpa using hv)) (by simpa using hc)
  | case6 fuel d vis path x rest hc _ d₁ d' vis' heq ih1 =>
    have hx := h.deps x (List.mem_cons_self ..)
    obtain ⟨e1, h1⟩ : Ext d d₁ ∧ At d₁ (path ++ [x]) x (d₁.get x) := h.descend
    have sp1 := (findCycle_spec fuel d₁ (x :: vis) (path ++ [x]) (d₁.get x) x h1).1
    rw [heq] at sp1
    have sp2 := (findCycle_spec fuel d' vis' path rest last (h.tail.congr (e1.trans sp1).get)).1
    refine Or.inl (Nat.lt_of_le_of_lt sp2.nu_le ?_)
    cases hhas : d.has x with
    | false => exact Nat.lt_of_le_of_lt sp1.nu_le (nu_touch_lt d x hhas (mem_targets d last x hx))
    | true =>
      have hd : d₁ = d := touch_of_has d x hhas
      rw [hd] at ih1 heq h1
      have := ih1 x h1 (hstuck last x hx hhas)
        (fun p hp => (List.mem_append.mp hp).elim (hpath p) fun h => by rwa [List.mem_singleton.mp h])
        (nodup_snoc hnd (by simpa using hc))
        (fun v hv => (List.mem_cons.mp hv).elim (fun e => by simp [e]) fun h => List.mem_append_left _ (hvis v h))
        hstuck (by simp only [List.length_append, List.length_singleton]; omega)
      rw [heq] at this
      exact this.resolve_right (fun h => h rfl)

/-- After a pass that emitted nothing (`hP1`, `hP2`: every remaining library still waits
for a library that is not emitted), the search started at a library with dependencies
finds a cycle whose first edge exists, or inserts a missing key. -/
theorem findCycle_progress (libs : List String) (fuel : Nat) (d : Deps) (vis pre : List String) (last : String)
    (rest : List String)
    (hrest : ∀ x ∈ rest, x ∈ d.get last) (hne : rest ≠ [])
    (hpath : ∀ p ∈ pre ++ [last], d.has p = true) (hnd : (pre ++ [last]).Nodup) (hlink : Linked d (pre ++ [last]))
    (hvis : ∀ v ∈ vis, v ∈ pre ++ [last])
    (hP1 : ∀ a b, b ∈ d.get a → b ∉ libs) (hP2 : ∀ k, d.has k = true → k ∉ libs → d.get k ≠ [])
    (hfuel : d.length < fuel + (pre ++ [last]).length) :
    nu (findCycle fuel d vis (pre ++ [last]) rest).1 < nu d ∨
      ∃ a b tl, (findCycle fuel d vis (pre ++ [last]) rest).2.2 = some (a :: b :: tl) ∧
        b ∈ (findCycle fuel d vis (pre ++ [last]) rest).1.get a := by
  have hat : At d (pre ++ [last]) last rest := ⟨hlink, by simp, hrest⟩
  refine (findCycle_descends fuel d vis _ rest last hat hne hpath hnd hvis
    (fun a b hb hk => hP2 b hk (hP1 a b hb)) hfuel).imp id fun h => ?_
  cases hc : (findCycle fuel d vis (pre ++ [last]) rest).2.2 with
  | none => exact absurd hc h
  | some c =>
    obtain ⟨a, b, tl, rfl, hb, -⟩ :=
      ((findCycle_spec fuel d vis _ rest last hat).2 c hc).first_edge
    exact ⟨a, b, tl, rfl, hb⟩

end IgVerif.MO
