import IgVerif.Lemmas.Merge
/-! The merge of all definitions of one type name does not depend on the order in which the
libraries holding them are loaded: one fully defined record `d` and any number of forward
references always merge to `d`, global iff one of them was global.

`merge_with` is not commutative: of two forward references the later one survives, of two
definitions the earlier unless the later is global.  The order does not show because the one definition absorbs every
forward reference, whichever side it is merged from, and only the global bits, a disjunction,
are carried along. -/
namespace IgVerif

/-- the type record left under one index after the libraries in `l` (in this order) each
contributed their definition of the type -/
def mergeAll (sch : Schema) (fc : FlagCfg) : List (List Val) → Option (List Val)
  | [] => none
  | x :: xs => some (xs.foldl (mergeWith sch fc) x)

section
variable (sch : Schema) (fc : FlagCfg) (ctx : MergeCtx sch fc)
include ctx

theorem fold_forward (fs : List (List Val)) (a : List Val) (ha : hasFlag sch.type a fc.typeFullyDefined = false)
    (hfs : ∀ f ∈ fs, hasFlag sch.type f fc.typeFullyDefined = false ∧ HasFlags sch.type f) :
    hasFlag sch.type (fs.foldl (mergeWith sch fc) a) fc.typeFullyDefined = false ∧
    hasFlag sch.type (fs.foldl (mergeWith sch fc) a) fc.typeGlobal =
      (hasFlag sch.type a fc.typeGlobal || fs.any (fun f => hasFlag sch.type f fc.typeGlobal)) := by
  induction fs generalizing a with
  | nil => simp [ha]
  | cons b fs ih =>
    obtain ⟨hb, hfs⟩ := List.forall_mem_cons.mp hfs
    rw [List.foldl_cons, mergeWith_forward_left sch fc a b ha]
    obtain ⟨h1, h2⟩ := ih _ ((fd_canon ctx hb.2 _).trans hb.1) hfs
    rw [global_canon hb.2 ctx.ne_zero] at h2
    rw [h2, List.any_cons, Bool.or_comm (hasFlag sch.type b fc.typeGlobal), Bool.or_assoc]
    exact ⟨h1, rfl⟩

theorem fold_defined (d : List Val) (hd : hasFlag sch.type d fc.typeFullyDefined = true) (hdf : HasFlags sch.type d)
    (fs : List (List Val)) (g : Bool) (hfs : ∀ f ∈ fs, hasFlag sch.type f fc.typeFullyDefined = false) :
    fs.foldl (mergeWith sch fc) (canon sch fc d g) =
      canon sch fc d (g || fs.any (fun f => hasFlag sch.type f fc.typeGlobal)) := by
  induction fs generalizing g with
  | nil => simp
  | cons b fs ih =>
    obtain ⟨hb, hfs⟩ := List.forall_mem_cons.mp hfs
    rw [List.foldl_cons, mergeWith_defined_forward sch fc _ b ((fd_canon ctx hdf g).trans hd) hb,
      canon_canon ctx hdf, ih _ hfs, List.any_cons, Bool.or_assoc]

/-- **Any order.** Whatever the order in which the definer `d` and the forward references
`fs` of one type are merged, the result is `d`, made global iff one of them was global. -/
theorem mergeAll_perm (d : List Val) (fs l : List (List Val)) (hl : l.Perm (d :: fs))
    (hd : hasFlag sch.type d fc.typeFullyDefined = true) (hdf : HasFlags sch.type d)
    (hfs : ∀ f ∈ fs, hasFlag sch.type f fc.typeFullyDefined = false ∧ HasFlags sch.type f) :
    mergeAll sch fc l = some (canon sch fc d ((d :: fs).any (fun f => hasFlag sch.type f fc.typeGlobal))) := by
  -- split `l` at the definer: before it only forward references are merged, after it the definer absorbs
  obtain ⟨pre, post, rfl⟩ := List.append_of_mem (hl.mem_iff.mpr (List.mem_cons_self ..))
  have hp : (pre ++ post).Perm fs := (List.perm_middle.symm.trans hl).cons_inv
  have hpre : ∀ f ∈ pre, _ := fun f hf => hfs f (hp.mem_iff.mp (List.mem_append_left _ hf))
  have hpost : ∀ f ∈ post, _ := fun f hf => (hfs f (hp.mem_iff.mp (List.mem_append_right _ hf))).1
  rw [← hl.any_eq]
  cases pre with
  | nil =>
    rw [List.nil_append, mergeAll, List.any_cons, canon_or_self ctx hdf]
    exact congrArg some (fold_defined sch fc ctx d hd hdf post false hpost)
  | cons a pre =>
    obtain ⟨ha, hpre⟩ := List.forall_mem_cons.mp hpre
    obtain ⟨h1, h2⟩ := fold_forward sch fc ctx pre a ha.1 hpre
    rw [List.cons_append, mergeAll, List.foldl_append, List.foldl_cons, mergeWith_forward_left sch fc _ d h1,
      fold_defined sch fc ctx d hd hdf post _ hpost, h2, List.any_cons, List.any_append, List.any_cons,
      ← canon_or_self ctx hdf]
    congr 2
    ac_rfl

end
end IgVerif
