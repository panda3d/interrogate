import IgVerif.Model.Traits
/-! `get_virtual_funcs` computes exactly the final overriders of [class.virtual] (`mem_mergeV`, then
the mutual `mem_vfuncs` / `mem_vfuncsB`).  The `(min_vis)` queries are monotone in `min_vis`: the
verdict on a declared member survives a raised bound unless it was "inaccessible" (`gate_le`), and
the three queries share one shape (`verdict_mono`). -/
namespace IgVerif.Tr

theorem mem_mergeV (inh : List VF) (ds : List VDecl) (n : Nat) (p : Bool) :
    (⟨n, p⟩ : VF) ∈ mergeV inh ds ↔
      ((⟨n, p⟩ : VF) ∈ inh ∧ ∀ d ∈ ds, d.id ≠ n) ∨
      (∃ d ∈ ds, d.id = n ∧ d.pure = p ∧ d.deleted = false ∧ (d.virt = true ∨ ∃ p', (⟨d.id, p'⟩ : VF) ∈ inh)) := by
  have hinh : ∀ d : VDecl, (inh.any fun vf => vf.id == d.id) = true ↔ ∃ p', (⟨d.id, p'⟩ : VF) ∈ inh := fun d => by
    rw [List.any_eq_true]
    exact ⟨fun ⟨⟨i, p'⟩, hm, he⟩ => ⟨p', by rw [← beq_iff_eq.1 he]; exact hm⟩, fun ⟨p', hm⟩ => ⟨_, hm, beq_self_eq_true _⟩⟩
  -- membership in `mergeV` read off `++`, `filter` and `map`: the inherited entries not re-declared, or an own declaration
  simp only [mergeV, List.mem_append, List.mem_filter, List.mem_map, Bool.not_eq_true', List.any_eq_false, beq_iff_eq,
    Bool.and_eq_true, Bool.or_eq_true, hinh, VF.mk.injEq, ne_eq]
  -- what is left differs from the statement in the order of the conjuncts only
  refine or_congr Iff.rfl ⟨?_, ?_⟩
  · rintro ⟨d, ⟨hd, hv, hdel⟩, h1, h2⟩
    exact ⟨d, hd, h1, h2, hdel, hv⟩
  · rintro ⟨d, hd, h1, h2, hdel, hv⟩
    exact ⟨d, ⟨hd, hv, hdel⟩, h1, h2⟩

mutual
theorem mem_vfuncs : (c : Cls) → (n : Nat) → (p : Bool) → ((⟨n, p⟩ : VF) ∈ vfuncs c ↔ FinalOv c n p)
  | .mk bases dctor octor cctor mctor dtor massign fields vfns, n, p => by
    have ih : ∀ n p, ((⟨n, p⟩ : VF) ∈ vfuncsB bases ↔ InhOv bases n p) := fun n p => mem_vfuncsB bases n p
    simp only [vfuncs]
    rw [mem_mergeV]
    constructor
    · rintro (⟨hm, hn⟩ | ⟨d, hd, he1, he2, hdel, hv⟩)
      · exact FinalOv.inherited ((ih n p).mp hm) hn
      · subst he1; subst he2
        rcases hv with hv | ⟨p', hp'⟩
        · exact FinalOv.ownVirtual hd hdel hv
        · exact FinalOv.ownOverrides hd hdel ((ih _ _).mp hp')
    · intro h
      cases h with
      | ownVirtual hd hdel hv => exact Or.inr ⟨_, hd, rfl, rfl, hdel, Or.inl hv⟩
      | ownOverrides hd hdel hi => exact Or.inr ⟨_, hd, rfl, rfl, hdel, Or.inr ⟨_, (ih _ _).mpr hi⟩⟩
      | inherited hi hn => exact Or.inl ⟨(ih n p).mpr hi, hn⟩
theorem mem_vfuncsB : (bs : Bases) → (n : Nat) → (p : Bool) → ((⟨n, p⟩ : VF) ∈ vfuncsB bs ↔ InhOv bs n p)
  | .nil, n, p => ⟨nofun, nofun⟩
  | .cons c vis virt rest, n, p => by
    simp only [vfuncsB, List.mem_append]
    constructor
    · rintro (h | h)
      · exact InhOv.here ((mem_vfuncs c n p).mp h)
      · exact InhOv.there ((mem_vfuncsB rest n p).mp h)
    · intro h
      cases h with
      | here h => exact Or.inl ((mem_vfuncs c n p).mpr h)
      | there h => exact Or.inr ((mem_vfuncsB rest n p).mpr h)
end

/-- raising `min_vis` leaves the verdict on a declared member as it is, unless the member was inaccessible -/
theorem gate_le (sm : SM) {v v' : Nat} (h : v ≤ v') : gate sm v = .no ∨ gate sm v' = gate sm v := by
  unfold gate
  by_cases h1 : sm.vis > v
  · exact Or.inl (if_pos h1)
  · exact Or.inr (by rw [if_neg h1, if_neg (by omega)])

theorem gate_mono (sm : SM) (v v' : Nat) (h : v ≤ v') :
    (gate sm v = .yes → gate sm v' = .yes) ∧ (gate sm v = .implicit → gate sm v' = .implicit) := by
  rcases gate_le sm h with hg | hg <;> simp [hg]

theorem ownDtorOk_mono (dtor : Option SM) {v v' : Nat} (h : v ≤ v') (hd : ownDtorOk dtor v = true) : ownDtorOk dtor v' = true := by
  cases dtor with
  | none => rfl
  | some sm =>
    simp only [ownDtorOk, Bool.and_eq_true, Bool.not_eq_true', decide_eq_false_iff_not] at hd ⊢
    exact ⟨by omega, hd.2⟩

/-- the shape the three `(min_vis)` queries share: the declared member decides, or (none, or defaulted) the
sub-objects do -/
theorem verdict_mono {o : Option SM} {g0 : Gate} {x x' : Bool} {v v' : Nat} (h : v ≤ v') (hx : x = true → x' = true) :
    (match (match o with | some sm => gate sm v | none => g0) with | .no => false | .yes => true | .implicit => x) = true →
    (match (match o with | some sm => gate sm v' | none => g0) with | .no => false | .yes => true | .implicit => x') = true := by
  cases o with
  | none =>
    cases g0 with
    | implicit => exact hx
    | _ => exact id
  | some sm =>
    dsimp only
    rcases gate_le sm h with hg | hg
    · rw [hg]; exact nofun
    · rw [hg]
      cases gate sm v with
      | implicit => exact hx
      | _ => exact id

end IgVerif.Tr
