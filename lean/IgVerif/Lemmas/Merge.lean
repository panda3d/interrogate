import IgVerif.Model.Query
/-! `merge_with`: the flag algebra and what a merge yields for a forward reference and a definition. -/
namespace IgVerif

theorem findVal_setVal_self (spec : List Field) (r : List Val) (n : String) (x : Val)
    (h : (findVal spec r n).isSome = true) : findVal spec (setVal spec r n x) n = some x := by
  fun_induction findVal spec r n with
  | case1 f fs v vs n hf => rw [setVal, if_pos hf, findVal, if_pos hf]
  | case2 f fs v vs n hf ih => rw [setVal, if_neg hf, findVal, if_neg hf, ih h]
  | case3 => cases h

theorem setVal_same (spec : List Field) (r : List Val) (n : String) (x : Val) (h : findVal spec r n = some x) :
    setVal spec r n x = r := by
  fun_induction findVal spec r n with
  | case1 f fs v vs n hf => rw [setVal, if_pos hf, Option.some.inj h]
  | case2 f fs v vs n hf ih => rw [setVal, if_neg hf, ih h]
  | case3 => cases h

/-- the record has an integer `_flags` member holding a non-negative value -/
def HasFlags (spec : List Field) (r : List Val) : Prop :=
  ∃ f : Int, findVal spec r "_flags" = some (.a (.int f)) ∧ 0 ≤ f

theorem findVal_orFlag {spec : List Field} {r : List Val} {f : Int} (m : Nat)
    (h : findVal spec r "_flags" = some (.a (.int f))) :
    findVal spec (orFlag spec r m) "_flags" = some (.a (.int (Int.ofNat (f.toNat ||| m)))) := by
  rw [orFlag, getInt, h]
  exact findVal_setVal_self spec r _ _ (by rw [h]; rfl)

theorem hasFlags_orFlag (spec : List Field) (r : List Val) (m : Nat) (h : HasFlags spec r) :
    HasFlags spec (orFlag spec r m) := by
  obtain ⟨f, hf, _⟩ := h
  exact ⟨_, findVal_orFlag m hf, Int.natCast_nonneg _⟩

theorem or_and_ne_zero (a m m' : Nat) : ((a ||| m) &&& m' != 0) = ((a &&& m' != 0) || (m &&& m' != 0)) := by
  rw [Nat.and_or_distrib_right, Bool.eq_iff_iff]
  simp [Nat.or_eq_zero_iff, Decidable.imp_iff_not_or]

theorem hasFlag_orFlag (spec : List Field) (r : List Val) (m m' : Nat) (h : HasFlags spec r) :
    hasFlag spec (orFlag spec r m) m' = (hasFlag spec r m' || (m &&& m' != 0)) := by
  obtain ⟨f, hf, _⟩ := h
  rw [hasFlag, getInt, findVal_orFlag m hf, hasFlag, getInt, hf]
  exact or_and_ne_zero f.toNat m m'

theorem or_two_pow_of_and_ne_zero (f k : Nat) (h : f &&& 2 ^ k ≠ 0) : f ||| 2 ^ k = f := by
  -- bit `k` of `f` is set: `f &&& 2 ^ k` has no other bit to be non-zero by
  have hb : f.testBit k = true := by
    cases hn : f.testBit k
    · refine absurd (Nat.eq_of_testBit_eq fun i => ?_) h
      by_cases e : k = i <;> simp_all
    · rfl
  refine Nat.eq_of_testBit_eq fun i => ?_
  by_cases e : k = i <;> simp_all

theorem orFlag_idem (spec : List Field) (r : List Val) (k : Nat) (h : HasFlags spec r)
    (hf : hasFlag spec r (2 ^ k) = true) : orFlag spec r (2 ^ k) = r := by
  obtain ⟨f, hfv, hpos⟩ := h
  rw [hasFlag, getInt, hfv, bne_iff_ne] at hf
  rw [orFlag, getInt, hfv, or_two_pow_of_and_ne_zero _ _ hf, Int.ofNat_eq_natCast, Int.toNat_of_nonneg hpos]
  exact setVal_same spec r "_flags" _ hfv

/-- what the merge lemmas need of the flag values (`c13_flag_facts` has it for the extracted ones) -/
structure MergeCtx (sch : Schema) (fc : FlagCfg) : Prop where
  g : ∃ k, fc.typeGlobal = 2 ^ k
  disj : fc.typeGlobal &&& fc.typeFullyDefined = 0

/-- what every load order produces from the definer `d` and forward references, `g` telling
whether any of the records merged so far was global -/
def canon (sch : Schema) (fc : FlagCfg) (d : List Val) (g : Bool) : List Val :=
  if g then orFlag sch.type d fc.typeGlobal else d

/-- `merge_with` keeps one of the two records and adds the other's global bit -/
theorem mergeWith_eq (sch : Schema) (fc : FlagCfg) (a b : List Val) :
    mergeWith sch fc a b =
      if hasFlag sch.type a fc.typeFullyDefined &&
          (!hasFlag sch.type b fc.typeFullyDefined || !hasFlag sch.type b fc.typeGlobal)
      then canon sch fc a (hasFlag sch.type b fc.typeGlobal) else canon sch fc b (hasFlag sch.type a fc.typeGlobal) :=
  rfl

theorem mergeWith_forward_left (sch : Schema) (fc : FlagCfg) (a b : List Val)
    (ha : hasFlag sch.type a fc.typeFullyDefined = false) :
    mergeWith sch fc a b = canon sch fc b (hasFlag sch.type a fc.typeGlobal) := by
  rw [mergeWith_eq, ha]
  rfl

theorem mergeWith_defined_forward (sch : Schema) (fc : FlagCfg) (a b : List Val)
    (ha : hasFlag sch.type a fc.typeFullyDefined = true) (hb : hasFlag sch.type b fc.typeFullyDefined = false) :
    mergeWith sch fc a b = canon sch fc a (hasFlag sch.type b fc.typeGlobal) := by
  rw [mergeWith_eq, ha, hb]
  rfl

theorem MergeCtx.ne_zero {sch : Schema} {fc : FlagCfg} (ctx : MergeCtx sch fc) : fc.typeGlobal ≠ 0 := by
  obtain ⟨k, hk⟩ := ctx.g
  rw [hk]
  exact Nat.ne_of_gt (Nat.two_pow_pos k)

theorem hasFlags_canon {sch : Schema} {fc : FlagCfg} {d : List Val} (hd : HasFlags sch.type d) (g : Bool) :
    HasFlags sch.type (canon sch fc d g) := by
  unfold canon
  split
  · exact hasFlags_orFlag _ _ _ hd
  · exact hd

theorem fd_canon {sch : Schema} {fc : FlagCfg} (ctx : MergeCtx sch fc) {d : List Val} (hd : HasFlags sch.type d)
    (g : Bool) :
    hasFlag sch.type (canon sch fc d g) fc.typeFullyDefined = hasFlag sch.type d fc.typeFullyDefined := by
  unfold canon
  split
  · rw [hasFlag_orFlag _ _ _ _ hd, ctx.disj]
    simp
  · rfl

theorem global_canon {sch : Schema} {fc : FlagCfg} {d : List Val} (hd : HasFlags sch.type d)
    (hg : fc.typeGlobal ≠ 0) (g : Bool) :
    hasFlag sch.type (canon sch fc d g) fc.typeGlobal = (hasFlag sch.type d fc.typeGlobal || g) := by
  cases g with
  | false => simp [canon]
  | true => simp [canon, hasFlag_orFlag _ _ _ _ hd, hg]

/-- a record that is global already is not changed by being made global: the flag is one bit -/
theorem canon_of_global {sch : Schema} {fc : FlagCfg} (ctx : MergeCtx sch fc) {d : List Val}
    (hd : HasFlags sch.type d) (hg : hasFlag sch.type d fc.typeGlobal = true) (g : Bool) :
    canon sch fc d g = d := by
  obtain ⟨k, hk⟩ := ctx.g
  cases g with
  | false => rfl
  | true =>
    rw [hk] at hg
    simp only [canon, if_true, hk]
    exact orFlag_idem sch.type d k hd hg

theorem canon_canon {sch : Schema} {fc : FlagCfg} (ctx : MergeCtx sch fc) {d : List Val}
    (hd : HasFlags sch.type d) (g g' : Bool) :
    canon sch fc (canon sch fc d g) g' = canon sch fc d (g || g') := by
  cases g with
  | false => rfl
  | true =>
    rw [Bool.true_or]
    exact canon_of_global ctx (hasFlags_canon hd true) (by rw [global_canon hd ctx.ne_zero]; simp) g'

theorem canon_or_self {sch : Schema} {fc : FlagCfg} (ctx : MergeCtx sch fc) {d : List Val}
    (hd : HasFlags sch.type d) (g : Bool) :
    canon sch fc d (hasFlag sch.type d fc.typeGlobal || g) = canon sch fc d g := by
  cases hg : hasFlag sch.type d fc.typeGlobal with
  | false => rfl
  | true => rw [canon_of_global ctx hd hg, canon_of_global ctx hd hg]

end IgVerif
