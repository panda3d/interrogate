import IgVerif.Model.EnumVal
/-! `add_element` gives every enumerator the value [dcl.enum]/2 gives it (`elements_spec`): an omitted
initialiser evaluates to the previous value plus one, however `next` writes that expression down. -/
namespace IgVerif.EnumVal

theorem next_none_eval (ρ : Nat → Int) : ∀ last : Ex, (next (some last) none).eval ρ = last.eval ρ + 1
  | .lit _ | .sym _ | .add _ (.sym _) | .add _ (.add ..) => rfl
  | .add _ (.lit _) => (Int.add_assoc ..).symm

/-- [dcl.enum]/2 as a function of the written initialisers -/
def spec (ρ : Nat → Int) : Option Int → List (Option Ex) → List Int
  | _, [] => []
  | prev, some e :: gs => e.eval ρ :: spec ρ (some (e.eval ρ)) gs
  | none, none :: gs => 0 :: spec ρ (some 0) gs
  | some p, none :: gs => (p + 1) :: spec ρ (some (p + 1)) gs

theorem elements_spec (ρ : Nat → Int) (last : Option Ex) (gs : List (Option Ex)) :
    (elements last gs).map (Ex.eval ρ) = spec ρ (last.map (Ex.eval ρ)) gs := by
  induction gs generalizing last with
  | nil => rfl
  | cons g gs ih =>
    rw [elements, List.map_cons, ih]
    match g, last with
    | some e, _ => rfl
    | none, none => rfl
    | none, some l => simp only [Option.map_some, spec, next_none_eval]

end IgVerif.EnumVal
