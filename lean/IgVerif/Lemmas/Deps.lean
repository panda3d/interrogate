import IgVerif.Model.ModuleOrder
/-! The association-list model of `std::map<string, std::set<string>>`.  `dependencies[k] = v`
splits the list around the entry of `k` (`set_split`); what `get`, `has`, `keys` and the
dependency targets become under `set` is read off that, and under a lookup `touch`, which is a
`set` (`touch_eq_set`); so is the measure of the ordering loop: `beta`, the edges plus the keys plus
twice the edges that point at no key. -/
namespace IgVerif.MO

def Deps.targets (d : Deps) : List String := d.flatMap (·.2)
/-- edges whose target is not a key (such a target becomes a key when it is first looked up) -/
def Deps.eu (d : Deps) : Nat := (d.targets.filter (fun b => !d.has b)).length
/-- what a cycle search can only lower: a key it inserts is paid for twice by the edges that then point at a key -/
def nu (d : Deps) : Nat := d.length + 2 * d.eu

theorem get_cons (k' : String) (v : List String) (rest : Deps) (k : String) :
    Deps.get ((k', v) :: rest) k = if k' = k then v else rest.get k := by
  simp [Deps.get]

theorem has_cons (p : String × List String) (rest : Deps) (k : String) :
    Deps.has (p :: rest) k = (p.1 == k || Deps.has rest k) := List.any_cons

theorem has_append (l₁ l₂ : Deps) (k : String) : Deps.has (l₁ ++ l₂) k = (l₁.has k || l₂.has k) :=
  List.any_append

theorem get_append (l₁ l₂ : Deps) (k : String) :
    Deps.get (l₁ ++ l₂) k = if l₁.has k then l₁.get k else l₂.get k := by
  induction l₁ with
  | nil => rfl
  | cons p l₁ ih =>
    obtain ⟨k', v⟩ := p
    by_cases e : k' = k <;> simp [get_cons, has_cons, e, ih]

variable (d : Deps) (k : String) (v : List String) (x : String)

theorem has_iff : d.has k = true ↔ k ∈ d.keys := by
  simp [Deps.has, Deps.keys]

theorem get_of_not_has (h : d.has k = false) : d.get k = [] := by
  induction d with
  | nil => rfl
  | cons p rest ih =>
    obtain ⟨k', v⟩ := p
    simp only [has_cons, Bool.or_eq_false_iff, beq_eq_false_iff_ne] at h
    rw [get_cons, if_neg h.1, ih h.2]

theorem has_of_get_ne_nil (h : d.get k ≠ []) : d.has k = true :=
  Decidable.byContradiction fun hn => h (get_of_not_has d k (by simpa using hn))

theorem replace_split (h : d.has k = true) :
    ∃ (l₁ : Deps) (v₀ : List String) (l₂ : Deps), d = l₁ ++ (k, v₀) :: l₂ ∧ d.replace k v = l₁ ++ (k, v) :: l₂ ∧ l₁.has k = false := by
  fun_induction Deps.replace d k v with
  | case1 => simp [Deps.has] at h
  | case2 k' v' rest e =>
    obtain rfl : k' = k := by simpa using e
    exact ⟨[], v', rest, rfl, rfl, rfl⟩
  | case3 k' v' rest e ih =>
    have e' : (k' == k) = false := by simpa using e
    obtain ⟨l₁, v₀, l₂, h1, h2, h3⟩ := ih (by simpa [has_cons, e'] using h)
    exact ⟨(k', v') :: l₁, v₀, l₂, by rw [h1]; rfl, by rw [h2]; rfl, by simp [has_cons, e', h3]⟩

theorem insert_split :
    ∃ l₁ l₂ : Deps, d = l₁ ++ l₂ ∧ d.insert k v = l₁ ++ (k, v) :: l₂ := by
  fun_induction Deps.insert d k v with
  | case1 => exact ⟨[], [], rfl, rfl⟩
  | case2 k' v' rest => exact ⟨[], (k', v') :: rest, rfl, rfl⟩
  | case3 k' v' rest _ ih =>
    obtain ⟨l₁, l₂, h1, h2⟩ := ih
    exact ⟨(k', v') :: l₁, l₂, by rw [h1]; rfl, by rw [h2]; rfl⟩

theorem set_split :
    ∃ l₁ l₂ : Deps, d.set k v = l₁ ++ (k, v) :: l₂ ∧ l₁.has k = false ∧
      ((∃ v₀, d = l₁ ++ (k, v₀) :: l₂) ∨ (l₂.has k = false ∧ d = l₁ ++ l₂)) := by
  unfold Deps.set
  split
  · rename_i h
    obtain ⟨l₁, v₀, l₂, h1, h2, h3⟩ := replace_split d k v h
    exact ⟨l₁, l₂, h2, h3, .inl ⟨v₀, h1⟩⟩
  · rename_i h
    obtain ⟨l₁, l₂, h1, h2⟩ := insert_split d k v
    rw [h1, has_append, Bool.not_eq_true, Bool.or_eq_false_iff] at h
    exact ⟨l₁, l₂, h2, h.1, .inr ⟨h.2, h1⟩⟩

theorem get_set (k' : String) :
    (d.set k v).get k' = if k' = k then v else d.get k' := by
  obtain ⟨l₁, l₂, e, h1, h⟩ := set_split d k v
  rw [e]
  by_cases hk : k' = k
  · subst hk; simp [get_append, get_cons, h1]
  · have hk' : k ≠ k' := Ne.symm hk
    rcases h with ⟨v₀, rfl⟩ | ⟨-, rfl⟩ <;> simp [get_append, get_cons, hk, hk']

theorem keys_set_has (h : d.has k = true) :
    (d.set k v).keys = d.keys := by
  obtain ⟨l₁, l₂, e, h1, ⟨v₀, rfl⟩ | ⟨h2, rfl⟩⟩ := set_split d k v
  · simp [e, Deps.keys]
  · simp [has_append, h1, h2] at h

theorem keys_set_perm (h : d.has k = false) :
    (d.set k v).keys.Perm (k :: d.keys) := by
  obtain ⟨l₁, l₂, e, h1, ⟨v₀, rfl⟩ | ⟨h2, rfl⟩⟩ := set_split d k v
  · simp [has_append, has_cons] at h
  · simp [e, Deps.keys]

theorem has_set (k' : String) :
    (d.set k v).has k' = (k' == k || d.has k') := by
  obtain ⟨l₁, l₂, e, -, ⟨v₀, rfl⟩ | ⟨-, rfl⟩⟩ := set_split d k v <;>
    simp [e, has_append, has_cons, Bool.or_left_comm, BEq.comm (a := k)]

/-- `d.get k = []` when `k` is no key, so this covers insertion too -/
theorem targets_set :
    ∃ l r, d.targets = l ++ d.get k ++ r ∧ (d.set k v).targets = l ++ v ++ r := by
  obtain ⟨l₁, l₂, e, h1, ⟨v₀, rfl⟩ | ⟨h2, rfl⟩⟩ := set_split d k v <;>
    refine ⟨l₁.targets, l₂.targets, ?_, by simp [e, Deps.targets]⟩
  · simp [Deps.targets, get_append, get_cons, h1]
  · simp [Deps.targets, get_append, h1, get_of_not_has _ _ h2]

theorem targets_length : d.targets.length = d.edges := List.length_flatMap

theorem mem_targets (a b : String) (h : b ∈ d.get a) : b ∈ d.targets := by
  obtain ⟨l, r, h1, -⟩ := targets_set d a []
  simp [h1, h]

theorem edges_set :
    (d.set k v).edges + (d.get k).length = d.edges + v.length := by
  obtain ⟨l, r, h1, h2⟩ := targets_set d k v
  simp only [← targets_length, h1, h2, List.length_append]; omega

theorem edges_insert (d : Deps) (k : String) (v : List String) : (d.insert k v).edges = d.edges + v.length := by
  obtain ⟨l₁, l₂, rfl, e⟩ := insert_split d k v
  simp [e, Deps.edges]; omega

/-- a lookup does to the map what the self-assignment `dependencies[k] = dependencies[k]` does -/
theorem touch_eq_set : d.touch x = d.set x (d.get x) := by
  unfold Deps.touch
  split
  · rename_i h
    obtain ⟨l₁, v₀, l₂, h1, h2, h3⟩ := replace_split d x (d.get x) h
    rw [Deps.set, if_pos h, h2]
    rw [h1, get_append, h3, get_cons]
    simp
  · rename_i h
    rw [get_of_not_has d x (by simpa using h)]

theorem get_touch (k' : String) : (d.touch k).get k' = d.get k' := by
  rw [touch_eq_set, get_set]
  split
  · rename_i e; rw [e]
  · rfl

theorem touch_of_has (h : d.has x = true) : d.touch x = d := if_pos h

theorem targets_touch : (d.touch x).targets = d.targets := by
  obtain ⟨l, r, h1, h2⟩ := targets_set d x (d.get x)
  rw [touch_eq_set, h2, h1]

theorem edges_touch (d : Deps) (x : String) : (d.touch x).edges = d.edges := by
  rw [← targets_length, ← targets_length, targets_touch]

theorem keys_nodup_touch (h : d.keys.Nodup) : (d.touch x).keys.Nodup := by
  rw [touch_eq_set]
  cases hx : d.has x
  · rw [(keys_set_perm d x _ hx).nodup_iff, List.nodup_cons]
    exact ⟨fun hm => by simp [(has_iff d x).mpr hm] at hx, h⟩
  · rwa [keys_set_has d x _ hx]

theorem length_eq_keys : d.length = d.keys.length := (List.length_map _).symm

/-- Looking up a missing key that something depends on adds a key and takes away at least one
edge that points at no key: hence the factor 2 in `nu`. -/
theorem nu_touch_lt (hx : d.has x = false) (ht : x ∈ d.targets) :
    nu (d.touch x) < nu d := by
  have hlen : (d.touch x).length = d.length + 1 := by
    rw [touch_eq_set, length_eq_keys, (keys_set_perm d x _ hx).length_eq, List.length_cons, length_eq_keys]
  have heu : (d.touch x).eu < d.eu := by
    have e : (d.touch x).targets.filter (fun b => !(d.touch x).has b) =
        (d.targets.filter (fun b => !d.has b)).filter (fun b => b != x) := by
      rw [targets_touch, List.filter_filter]
      congr 1; funext b; rw [touch_eq_set, has_set]; cases d.has b <;> simp [bne]
    unfold Deps.eu
    rw [e, List.length_filter_lt_length_iff_exists]
    exact ⟨x, by simp [ht, hx], by simp⟩
  unfold nu; omega

theorem nu_touch_le (ht : x ∈ d.targets) : nu (d.touch x) ≤ nu d := by
  cases hx : d.has x with
  | true => rw [touch_of_has d x hx]; exact Nat.le_refl _
  | false => exact Nat.le_of_lt (nu_touch_lt d x hx ht)

/-- the measure of the `while` loop: no move raises it, a round that emits nothing lowers it -/
def beta (d : Deps) : Nat := d.edges + nu d

theorem beta_lt_fuelFor : beta d < fuelFor d := by
  have : d.eu ≤ d.edges := targets_length d ▸ List.length_filter_le _ _
  unfold beta nu fuelFor; omega

theorem beta_set (h : d.has k = true) (hv : v.Sublist (d.get k)) :
    beta (d.set k v) + (d.get k).length ≤ beta d + v.length := by
  have hlen : (d.set k v).length = d.length := by
    rw [length_eq_keys, keys_set_has d k v h, length_eq_keys]
  have heu : (d.set k v).eu ≤ d.eu := by
    obtain ⟨l, r, h1, h2⟩ := targets_set d k v
    have hf : (fun b => !(d.set k v).has b) = (fun b => !d.has b) := by
      funext b; rw [has_set]; by_cases e : b = k <;> simp [e, h]
    unfold Deps.eu
    rw [hf, h1, h2]
    exact (((List.Sublist.refl l).append hv).append (List.Sublist.refl r)).filter _ |>.length_le
  have := edges_set d k v
  unfold beta nu; omega

end IgVerif.MO
