import IgVerif.Model.Names
import IgVerif.Lemmas.Bytes
/-! The names `hash_function_signature` hands out are valid, new and always found.  New: `Grows`, no
key is lost and the name handed out was none (`grows_append`, `assign_grows`).  Found: the search is
`find?` over the suffix candidates `a`…`z`, `26`, `27`, …, which are pairwise different — the numbers are
written by `showNat`, hence the decimal codec lemmas — so `m.length + 1` of them cannot all be keys
(`le_length_of_injective`). -/
namespace IgVerif.Nm

def identChar (c : Char) : Bool :=
  ('A' ≤ c && c ≤ 'Z') || ('a' ≤ c && c ≤ 'z') || ('0' ≤ c && c ≤ '9') || c == '_'

theorem encChar_valid : ∀ v < 64, identChar (encChar v) = true := by decide +kernel

theorem encode24_valid (h : Nat) : (encode24 h).length = 4 ∧ ∀ c ∈ encode24 h, identChar c = true := by
  refine ⟨rfl, fun c hc => ?_⟩
  simp only [encode24, List.mem_cons, List.not_mem_nil, or_false] at hc
  rcases hc with rfl | rfl | rfl | rfl <;> exact encChar_valid _ (Nat.mod_lt _ (by decide))

def okByte (c : Nat) : Bool := isAlnum c || c == 95

theorem cleanLoop_chars (name : List Nat) (b : Bool) : ∀ c ∈ cleanLoop name b, okByte c = true := by
  fun_induction cleanLoop name b with
  | case1 => nofun
  | case2 x xs b hx ih =>
    have hx' : okByte x = true := by rw [okByte, hx]; rfl
    cases b
    · exact List.forall_mem_cons.mpr ⟨hx', ih⟩
    · exact List.forall_mem_cons.mpr ⟨rfl, List.forall_mem_cons.mpr ⟨hx', ih⟩⟩
  | case3 x xs b hx ih => exact ih

theorem has_eq (m : HMap) (k : List Char) : m.has k = (m.map Prod.fst).contains k := by
  induction m with
  | nil => rfl
  | cons p rest ih =>
    rw [List.map_cons, List.contains_cons, ← ih, BEq.comm]
    simp only [HMap.has, HMap.find]; split <;> simp [*]

theorem has_append (m : HMap) (k k' : List Char) (v : Option Sig) :
    (m ++ [(k', v)]).has k = (m.has k || k' == k) := by
  rw [has_eq, has_eq, List.map_append, List.contains_append, List.map_singleton, List.contains_cons,
    List.contains_nil, Bool.or_false, BEq.comm]

theorem has_setv (m : HMap) (k k' : List Char) (v : Option Sig) (h : m.has k = true) :
    (m.setv k' v).has k = true := by
  rw [has_eq] at h ⊢
  induction m with
  | nil => cases h
  | cons p rest ih =>
    rw [HMap.setv]
    split
    · next e => rwa [← eq_of_beq e]
    · rw [List.map_cons, List.contains_cons, Bool.or_eq_true] at h ⊢; exact h.imp_right ih

theorem has_insertNew (m : HMap) (k k' : List Char) (v : Option Sig) (h : m.has k = true) :
    (m.insertNew k' v).1.has k = true := by
  unfold HMap.insertNew
  split
  · exact h
  · simp [has_append, h]

/-- below the surrogates every number is the code of its own character -/
theorem toNat_ofNat {n : Nat} (h : n < 55296) : (Char.ofNat n).toNat = n := by
  rw [Char.ofNat, dif_pos (.inl h)]
  simp [Char.ofNatAux, Char.toNat]

theorem suffixOf_toNat (i : Nat) : (suffixOf i).map Char.toNat = if i < 26 then [97 + i] else showNat i := by
  unfold suffixOf
  split
  · next h => simp [toNat_ofNat (show 97 + i < 55296 by omega)]
  · rw [List.map_map]
    refine (List.map_congr_left fun d hd => ?_).trans (List.map_id _)
    have := isDigit_iff.mp (showNat_digits i d hd)
    exact toNat_ofNat (by omega)

theorem showNat_inj (a b : Nat) (h : showNat a = showNat b) : a = b := by
  have ha := readNat_showNat a [] noDigitHead_nil
  rw [h, readNat_showNat b [] noDigitHead_nil] at ha
  simpa using ha.symm

theorem suffixOf_inj (i j : Nat) (h : suffixOf i = suffixOf j) : i = j := by
  have h := congrArg (List.map Char.toNat) h
  rw [suffixOf_toNat, suffixOf_toNat] at h
  -- a number starts with a digit, and the digits come before the letters
  have digit (n k : Nat) : [97 + k] ≠ showNat n := by
    obtain ⟨c, cs, hs, hc⟩ := showNat_head n
    rw [isDigit_iff] at hc
    rw [hs]; intro e; injection e with e; omega
  split at h <;> split at h
  · simpa using h
  · exact absurd h (digit _ _)
  · exact absurd h.symm (digit _ _)
  · exact showNat_inj i j h

theorem firstFree_eq_find? (m : HMap) (old : List Char) (fuel i : Nat) :
    firstFree m old fuel i = ((List.range' i fuel).map fun j => old ++ suffixOf j).find? fun h => !m.has h := by
  fun_induction firstFree m old fuel i with
  | case1 => rfl
  | case2 fuel i hhas ih => rw [List.range'_succ, List.map_cons, List.find?_cons_of_neg (by simp [hhas]), ih]
  | case3 fuel i hn => rw [List.range'_succ, List.map_cons, List.find?_cons_of_pos (by simp [hn])]

/-- pigeonhole: a list that holds `n` pairwise different things has at least `n` members -/
theorem le_length_of_injective {α : Type} (f : Nat → α) (hf : ∀ i j, f i = f j → i = j) (l : List α) (n : Nat)
    (h : (List.range n).map f ⊆ l) : n ≤ l.length := by
  have hnodup : ((List.range n).map f).Nodup :=
    List.pairwise_map.mpr (List.pairwise_lt_range.imp fun hab heq => Nat.ne_of_lt hab (hf _ _ heq))
  simpa using hnodup.length_le_of_subset h

/-- **A free name is always found**: the `m.length + 1` candidates are pairwise different, so the
keys of `m` cannot hold them all. -/
theorem firstFree_total (m : HMap) (old : List Char) : ∃ h, firstFree m old (m.length + 1) 0 = some h := by
  cases hf : firstFree m old (m.length + 1) 0 with
  | some h => exact ⟨h, rfl⟩
  | none =>
    rw [firstFree_eq_find?, List.find?_eq_none, ← List.range_eq_range'] at hf
    have := le_length_of_injective (fun j => old ++ suffixOf j)
      (fun i j e => suffixOf_inj i j (List.append_cancel_left e)) (m.map Prod.fst) (m.length + 1)
      fun k hk => List.contains_iff_mem.mp (by rw [← has_eq]; simpa using hf k hk)
    rw [List.length_map] at this
    omega

theorem place_spec (m : HMap) (ext : List Char) (sig : Sig) :
    ∃ h, place m ext sig = (m ++ [(h, some sig)], some h) ∧ m.has h = false := by
  fun_cases place m ext sig with
  | case1 hext => exact ⟨ext, rfl, by simpa using hext⟩
  | case2 _ h hff => rw [firstFree_eq_find?] at hff; exact ⟨h, rfl, by simpa using List.find?_some hff⟩
  | case3 _ hff => obtain ⟨h, hh⟩ := firstFree_total m ext; rw [hh] at hff; cases hff

theorem relocate_mono (m : HMap) (h5 : List Char) (entry : Option Sig) (k : List Char) (hk : m.has k = true) :
    (relocate m h5 entry).has k = true := by
  cases entry with
  | none => exact hk
  | some other => exact has_insertNew _ _ _ _ (has_setv _ _ _ _ hk)

/-- what every way of handing out a name does to the map: no key is lost, and the name handed out
was no key before and is one now -/
def Grows (m : HMap) (r : HMap × Option (List Char)) : Prop :=
  (∀ k, m.has k = true → r.1.has k = true) ∧ ∀ h, r.2 = some h → m.has h = false ∧ r.1.has h = true

theorem not_has_of_mono {m m₁ : HMap} {k : List Char} (hm : m.has k = true → m₁.has k = true)
    (h : m₁.has k = false) : m.has k = false :=
  Bool.eq_false_iff.mpr fun hk => Bool.eq_false_iff.mp h (hm hk)

/-- how a name is handed out: the map may have gained keys first (`relocate`), then a free name is appended -/
theorem grows_append {m m₁ : HMap} (hm : ∀ k, m.has k = true → m₁.has k = true) (h : List Char) (v : Option Sig)
    (hh : m₁.has h = false) : Grows m (m₁ ++ [(h, v)], some h) :=
  ⟨fun k hk => by simp [has_append, hm k hk],
    fun h' e => by cases e; simp [has_append, not_has_of_mono (hm h) hh]⟩

theorem grows_refl (m : HMap) : Grows m (m, none) := ⟨fun _ hk => hk, fun _ e => nomatch e⟩

theorem assign_grows (m : HMap) (sig : Sig) : Grows m (assign m sig) := by
  fun_cases assign m sig with
  | case1 _ hfind => exact grows_append (fun _ hk => hk) _ _ (by simp [HMap.has, hfind])
  | case2 => exact grows_refl m
  | case3 _ entry =>
    obtain ⟨h, e, hh⟩ := place_spec (relocate m _ entry) _ sig
    rw [e]
    exact grows_append (relocate_mono m _ entry) h _ hh

theorem assign_fresh (m : HMap) (sig : Sig) (m' : HMap) (h : List Char) (ha : assign m sig = (m', some h)) :
    m.has h = false ∧ m'.has h = true ∧ ∀ k, m.has k = true → m'.has k = true := by
  have hg := assign_grows m sig
  rw [ha] at hg
  exact ⟨(hg.2 h rfl).1, (hg.2 h rfl).2, hg.1⟩

theorem assignAll_fresh (sigs : List Sig) (m : HMap) (h : List Char) (hm : some h ∈ assignAll m sigs) :
    m.has h = false := by
  induction sigs generalizing m with
  | nil => cases hm
  | cons s ss ih =>
    have hg := assign_grows m s
    rw [assignAll, List.mem_cons] at hm
    rcases hm with h1 | h1
    · exact (hg.2 h h1.symm).1
    · exact not_has_of_mono (hg.1 h) (ih _ h1)

/-- a name handed out is a key from then on, and the later ones were none when handed out -/
theorem assignAll_pairwise (sigs : List Sig) (m : HMap) :
    (assignAll m sigs).Pairwise (fun a b => a.isSome = true → a ≠ b) := by
  induction sigs generalizing m with
  | nil => exact .nil
  | cons s ss ih =>
    refine List.pairwise_cons.mpr ⟨fun b hb hsome heq => ?_, ih _⟩
    obtain ⟨h, hr⟩ := Option.isSome_iff_exists.mp hsome
    have := assignAll_fresh ss _ h (by rwa [← hr, heq])
    rw [((assign_grows m s).2 h hr).2] at this
    cases this

end IgVerif.Nm
