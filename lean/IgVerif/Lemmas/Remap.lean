import IgVerif.Model.Closed
/-! What `remap_indices` does to the keys.  The six maps are numbered consecutively, wrappers first
(`renumber_spec`); the records stay where they are (`records_remap`); the remapper sends every old
key of a kind to a new key of that kind, provided no index is used by two kinds (`finalRm_sends`),
and leaves alone what is no key (`finalRm_other`). -/
namespace IgVerif

def consec : Int → Nat → List Int
  | _, 0 => []
  | n, k+1 => n :: consec (n + 1) k

theorem length_consec (n : Int) (k : Nat) : (consec n k).length = k := by
  induction k generalizing n with
  | zero => rfl
  | succ k ih => rw [consec, List.length_cons, ih]

theorem consecutiveFrom_consec (n : Int) (k : Nat) : consecutiveFrom n (consec n k) = true := by
  induction k generalizing n with
  | zero => rfl
  | succ k ih => simp [consec, consecutiveFrom, ih]

theorem consec_succ_right (n : Int) (k : Nat) : consec n (k + 1) = consec n k ++ [n + k] := by
  induction k generalizing n with
  | zero => rw [consec, consec, consec, List.nil_append, Int.natCast_zero, Int.add_zero]
  | succ k ih =>
    rw [consec, ih, consec, List.cons_append, Int.natCast_add, Int.natCast_one, Int.add_assoc, Int.add_comm 1]

def renumberStep (acc : IMap (List Val) × Int × Remap) (p : Int × List Val) : IMap (List Val) × Int × Remap :=
  (acc.1 ++ [(acc.2.1, p.2)], acc.2.1 + 1, acc.2.2.add p.1 acc.2.1)

theorem renumber_acc (m acc : IMap (List Val)) (n : Int) (rm : Remap) :
    m.foldl renumberStep (acc, n, rm) = (acc ++ (renumber m n rm).1, (renumber m n rm).2) := by
  induction m generalizing acc n rm with
  | nil => exact congrArg (·, n, rm) (List.append_nil acc).symm
  | cons p rest ih =>
    -- unfolded, `renumber (p :: rest) n rm` is the fold over `rest` from the accumulator `[(n, p.2)]`
    rw [show renumber (p :: rest) n rm = _ from ih [(n, p.2)] (n + 1) (rm.add p.1 n)]
    exact (ih (acc ++ [(n, p.2)]) (n + 1) (rm.add p.1 n)).trans (by rw [List.append_assoc])

/-- `renumber` entry by entry, without the accumulator of its fold -/
theorem renumber_cons (p : Int × List Val) (rest : IMap (List Val)) (n : Int) (rm : Remap) :
    renumber (p :: rest) n rm =
      ((n, p.2) :: (renumber rest (n + 1) (rm.add p.1 n)).1, (renumber rest (n + 1) (rm.add p.1 n)).2) :=
  renumber_acc rest [(n, p.2)] (n + 1) (rm.add p.1 n)

/-- keys of a renumbered map are `first, first+1, …`, the records are unchanged
and in the same order, and the next free index is `first + size`. -/
theorem renumber_spec (m : IMap (List Val)) (first : Int) (rm : Remap) :
    (renumber m first rm).1.map (·.1) = consec first m.length ∧
    (renumber m first rm).1.map (·.2) = m.map (·.2) ∧
    (renumber m first rm).2.1 = first + m.length := by
  induction m generalizing first rm with
  | nil => exact ⟨rfl, rfl, (Int.add_zero first).symm⟩
  | cons p rest ih =>
    obtain ⟨h1, h2, h3⟩ := ih (first + 1) (rm.add p.1 first)
    rw [renumber_cons]
    exact ⟨congrArg (first :: ·) h1, congrArg (p.2 :: ·) h2, by rw [h3, List.length_cons]; omega⟩

theorem Remap.find_add (rm : Remap) (a b k : Int) :
    (rm.add a b).find k = if a == k then some b else rm.find k := by
  rw [Remap.add, Remap.find]
  split
  · rfl
  · next h =>
    -- the entries dropped are those under `a`, which is not the key asked for
    have hne : a ≠ k := by simpa using h
    induction rm with
    | nil => rfl
    | cons p rest ih =>
      by_cases hx : p.1 = a
      · simp [Remap.find, hx, hne, ih]
      · simp [Remap.find, hx, ih]

theorem renumber_keep (m : IMap (List Val)) (n : Int) (rm : Remap) (i : Int) (hn : i ∉ m.map (·.1)) :
    (renumber m n rm).2.2.find i = rm.find i := by
  induction m generalizing n rm with
  | nil => rfl
  | cons p rest ih =>
    rw [List.map_cons, List.mem_cons, not_or] at hn
    rw [renumber_cons, ih _ _ hn.2, Remap.find_add, if_neg (by simpa using Ne.symm hn.1)]

theorem renumber_sends (m : IMap (List Val)) (n : Int) (rm : Remap) :
    ∀ i ∈ m.map (·.1), (renumber m n rm).2.2.mapFrom i ∈ (renumber m n rm).1.map (·.1) := by
  induction m generalizing n rm with
  | nil => exact fun _ hi => nomatch hi
  | cons p rest ih =>
    intro i hi
    rw [renumber_cons]
    by_cases hr : i ∈ rest.map (·.1)
    · exact List.mem_cons_of_mem _ (ih _ _ i hr)
    · -- `i` is the key of `p` and no later entry overwrites its mapping
      obtain rfl : i = p.1 := (List.mem_cons.mp hi).resolve_right hr
      rw [Remap.mapFrom, renumber_keep _ _ _ _ hr, Remap.find_add, beq_self_eq_true, if_pos rfl]
      exact List.mem_cons_self

def Db.p1 (db : Db) (first : Int) := renumber db.wrappers first []
def Db.p2 (db : Db) (first : Int) := renumber db.functions (db.p1 first).2.1 (db.p1 first).2.2
def Db.p3 (db : Db) (first : Int) := renumber db.types (db.p2 first).2.1 (db.p2 first).2.2
def Db.p4 (db : Db) (first : Int) := renumber db.manifests (db.p3 first).2.1 (db.p3 first).2.2
def Db.p5 (db : Db) (first : Int) := renumber db.elements (db.p4 first).2.1 (db.p4 first).2.2
def Db.p6 (db : Db) (first : Int) := renumber db.makeSeqs (db.p5 first).2.1 (db.p5 first).2.2

/-- the pass that renumbers a kind: its map with the new keys (not yet re-linked), the next index
and the remapper after it -/
def Db.pass (db : Db) (first : Int) : Kind → IMap (List Val) × Int × Remap
  | .wrapper => db.p1 first | .function => db.p2 first | .type => db.p3 first
  | .manifest => db.p4 first | .element => db.p5 first | .makeSeq => db.p6 first

def Db.finalRm (db : Db) (first : Int) : Remap := (db.p6 first).2.2

theorem remapIndices_rm (sch : Schema) (rc : RemapCfg) (db : Db) (first : Int) :
    (db.remapIndices sch rc first).2 = db.finalRm first := rfl

theorem remapIndices_map (sch : Schema) (rc : RemapCfg) (db : Db) (first : Int) (k : Kind) :
    (db.remapIndices sch rc first).1.map k =
      (db.pass first k).1.map (fun p => (p.1, remapRec (db.finalRm first) (rc.of k) (sch.of k) p.2)) := by
  cases k <;> rfl

theorem keys_remap (sch : Schema) (rc : RemapCfg) (db : Db) (first : Int) (k : Kind) :
    ((db.remapIndices sch rc first).1.map k).map (·.1) = (db.pass first k).1.map (·.1) := by
  rw [remapIndices_map, List.map_map]; rfl

/-- the passes change keys only; the records are then re-linked where they stand -/
theorem records_remap (sch : Schema) (rc : RemapCfg) (db : Db) (first : Int) (k : Kind) :
    ((db.remapIndices sch rc first).1.map k).map (·.2) =
      (db.map k).map (fun p => remapRec (db.finalRm first) (rc.of k) (sch.of k) p.2) := by
  have h : (db.pass first k).1.map (·.2) = (db.map k).map (·.2) := by
    cases k <;> exact (renumber_spec _ _ _).2.1
  replace h := congrArg (List.map (remapRec (db.finalRm first) (rc.of k) (sch.of k))) h
  rw [List.map_map, List.map_map] at h
  rw [remapIndices_map, List.map_map]
  exact h

theorem remapIndices_wrappers (sch : Schema) (rc : RemapCfg) (db : Db) (first : Int) :
    (db.remapIndices sch rc first).1.wrappers.map (·.1) = consec first db.wrappers.length :=
  (keys_remap sch rc db first .wrapper).trans (renumber_spec db.wrappers first []).1

theorem remapIndices_ranges (sch : Schema) (rc : RemapCfg) (db : Db) (first : Int) :
    let r := (db.remapIndices sch rc first).1
    r.functions.map (·.1) = consec (first + db.wrappers.length) db.functions.length ∧
    r.types.map (·.1) = consec (first + db.wrappers.length + db.functions.length) db.types.length ∧
    r.nextIndex = first + db.wrappers.length + db.functions.length + db.types.length +
      db.manifests.length + db.elements.length + db.makeSeqs.length := by
  have h1 : (db.p1 first).2.1 = first + db.wrappers.length := (renumber_spec _ _ _).2.2
  have h2 : (db.p2 first).2.1 = _ := (renumber_spec _ _ _).2.2
  refine ⟨?_, ?_, ?_⟩
  · exact (keys_remap sch rc db first .function).trans (h1 ▸ (renumber_spec db.functions _ _).1)
  · exact (keys_remap sch rc db first .type).trans (h1 ▸ h2 ▸ (renumber_spec db.types _ _).1)
  · show (db.p6 first).2.1 = _
    simp only [Db.p6, Db.p5, Db.p4, Db.p3, Db.p2, Db.p1, (renumber_spec _ _ _).2.2]

/-- the passes over the kinds `ks`, one after the other, from next index and remapper `s` -/
def Db.passes (db : Db) (ks : List Kind) (s : Int × Remap) : Int × Remap :=
  ks.foldl (fun s k => (renumber (db.map k) s.1 s.2).2) s

theorem passes_keep (db : Db) (ks : List Kind) (s : Int × Remap) (i : Int)
    (hn : ∀ k ∈ ks, i ∉ (db.map k).map (·.1)) : (db.passes ks s).2.find i = s.2.find i := by
  induction ks generalizing s with
  | nil => rfl
  | cons k ks ih =>
    exact (ih _ fun k' hk' => hn k' (List.mem_cons_of_mem _ hk')).trans
      (renumber_keep (db.map k) s.1 s.2 i (hn k List.mem_cons_self))

/-- no index is used by two kinds -/
def Db.kindsDisjointB (db : Db) : Bool :=
  allKinds.all fun k1 => allKinds.all fun k2 =>
    k1 == k2 || ((db.map k1).map (·.1)).all (fun i => !((db.map k2).map (·.1)).contains i)

theorem mem_allKinds (k : Kind) : k ∈ allKinds := by cases k <;> decide

theorem kindsDisjoint_spec (db : Db) (h : db.kindsDisjointB = true) (k1 k2 : Kind) (hne : k1 ≠ k2) :
    ∀ i ∈ (db.map k1).map (·.1), i ∉ (db.map k2).map (·.1) := by
  intro i hi hc
  have h2 := List.all_eq_true.mp (List.all_eq_true.mp h k1 (mem_allKinds k1)) k2 (mem_allKinds k2)
  rw [beq_false_of_ne hne, Bool.false_or] at h2
  have h3 := List.all_eq_true.mp h2 i hi
  rw [List.contains_iff_mem.mpr hc] at h3
  cases h3

/-- Of the six passes only the one over the kind that may use `i` matters to where `i` is mapped:
`finalRm` is the remapper after that pass, run through the later passes, which are over other keys. -/
theorem finalRm_find (db : Db) (first : Int) (i : Int) (k : Kind)
    (hk : ∀ k2, k2 ≠ k → i ∉ (db.map k2).map (·.1)) :
    (db.finalRm first).find i = (db.pass first k).2.2.find i := by
  have later := fun ks (hks : k ∉ ks) =>
    passes_keep db ks (db.pass first k).2 i fun k2 h2 => hk k2 fun e => hks (e ▸ h2)
  cases k with
  | wrapper => exact later [.function, .type, .manifest, .element, .makeSeq] (by decide)
  | function => exact later [.type, .manifest, .element, .makeSeq] (by decide)
  | type => exact later [.manifest, .element, .makeSeq] (by decide)
  | manifest => exact later [.element, .makeSeq] (by decide)
  | element => exact later [.makeSeq] (by decide)
  | makeSeq => rfl

theorem finalRm_sends (sch : Schema) (rc : RemapCfg) (db : Db) (first : Int)
    (hd : db.kindsDisjointB = true) (t : String) :
    ∀ i ∈ db.keys t, (db.finalRm first).mapFrom i ∈ (db.remapIndices sch rc first).1.keys t := by
  unfold Db.keys
  cases Kind.ofString t with
  | none => exact fun _ hi => nomatch hi
  | some k =>
    intro i (hi : i ∈ (db.map k).map (·.1))
    show _ ∈ ((db.remapIndices sch rc first).1.map k).map (·.1)
    rw [keys_remap, Remap.mapFrom,
      finalRm_find db first i k fun k2 hne => kindsDisjoint_spec db hd k k2 (Ne.symm hne) i hi]
    cases k <;> exact renumber_sends _ _ _ i hi

theorem finalRm_other (db : Db) (first : Int) (i : Int) (hn : ∀ k, i ∉ (db.map k).map (·.1)) :
    (db.finalRm first).mapFrom i = i := by
  have : (db.finalRm first).find i = none :=
    (finalRm_find db first i .wrapper fun k2 _ => hn k2).trans
      (renumber_keep db.wrappers first [] i (hn .wrapper))
  rw [Remap.mapFrom, this]; rfl

end IgVerif
