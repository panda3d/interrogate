import IgVerif.Model.Cond
/-! The stack-free machine refines the nested-group semantics on every well-nested program. -/
namespace IgVerif.Cond

variable {Env : Type}

theorem seqOut_assoc (a : Out Env) (k : Env → Out Env) (h : Env → Out Env) :
    seqOut (seqOut a k) h = seqOut a (fun e => seqOut (k e) h) := by
  simp [seqOut, List.append_assoc]

/-- the mode after the `#endif` of a conditional that was passed over in mode `(k, l)` -/
def leave (k : Bool) : Nat → Option (Bool × Nat)
  | 0 => none
  | l + 1 => some (k, l)

theorem run_endif (k : Bool) (l : Nat) (env : Env) (ds : List (Dir Env)) :
    run (some (k, l)) env (.endif :: ds) = run (leave k l) env ds := by
  cases l <;> simp [run, leave]

mutual
theorem skipB (k : Bool) (l : Nat) (env : Env) (rest : List (Dir Env)) : (b : Block Env) →
    run (some (k, l)) env (flattenB b ++ rest) = run (some (k, l)) env rest
  | .text m => rfl
  | .eff f => rfl
  | .cond c t r => by
      simp only [flattenB, List.cons_append, List.append_assoc, run]
      rw [skipBs k (l+1) env _ t, skipTail k (l+1) env rest r (by simp)]; rfl
theorem skipBs (k : Bool) (l : Nat) (env : Env) (rest : List (Dir Env)) : (bs : Blocks Env) →
    run (some (k, l)) env (flattenBs bs ++ rest) = run (some (k, l)) env rest
  | .nil => rfl
  | .cons b bs => by
      simp only [flattenBs, List.append_assoc]
      rw [skipB k l env _ b, skipBs k l env rest bs]
/-- the rest of a conditional none of whose groups can still be taken: it is nested in skipped
text (`l > 0`), or a group of it has been taken (`k = false`) -/
theorem skipTail (k : Bool) (l : Nat) (env : Env) (rest : List (Dir Env)) : (r : Tail Env) → ¬(l = 0 ∧ k = true) →
    run (some (k, l)) env (flattenT r ++ rest) = run (leave k l) env rest
  | .endif, _ => run_endif k l env rest
  | .els bs, h => by
      simp only [flattenT, List.cons_append, List.append_assoc, run, if_neg h]
      rw [skipBs k l env _ bs]; exact run_endif k l env rest
  | .elif c t r, h => by
      simp only [flattenT, List.cons_append, List.append_assoc, run, if_neg h]
      rw [skipBs k l env _ t, skipTail k l env rest r h]
end

theorem skipT (k : Bool) (l : Nat) (env : Env) (rest : List (Dir Env)) : (r : Tail Env) →
    run (some (k, l+1)) env (flattenT r ++ rest) = run (some (k, l)) env rest :=
  fun r => skipTail k (l+1) env rest r (by simp)

/-- `#else` / `#elif` met in active mode: a group was taken, the machine goes to mode `(false, 0)` -/
theorem doneT (env : Env) (rest : List (Dir Env)) : (r : Tail Env) →
    run none env (flattenT r ++ rest) = run none env rest
  | .endif => rfl
  | .els bs => skipTail false 0 env rest (.els bs) (by simp)
  | .elif c t r => skipTail false 0 env rest (.elif c t r) (by simp)

mutual
theorem refB (env : Env) (rest : List (Dir Env)) : (b : Block Env) →
    run none env (flattenB b ++ rest) = seqOut (specB env b) (fun e => run none e rest)
  | .text m => rfl
  | .eff f => by simp [flattenB, run, specB, seqOut]
  | .cond c t r => by
      simp only [flattenB, List.cons_append, List.append_assoc, run, specB]
      split
      · rw [refBs env _ t]
        congr 1; funext e; exact doneT e rest r
      · rw [skipBs true 0 env _ t]
        exact refT env rest r
theorem refBs (env : Env) (rest : List (Dir Env)) : (bs : Blocks Env) →
    run none env (flattenBs bs ++ rest) = seqOut (specBs env bs) (fun e => run none e rest)
  | .nil => by simp [flattenBs, specBs, seqOut]
  | .cons b bs => by
      simp only [flattenBs, List.append_assoc, specBs]
      rw [refB env _ b, seqOut_assoc]
      congr 1; funext e; exact refBs e rest bs
theorem refT (env : Env) (rest : List (Dir Env)) : (r : Tail Env) →
    run (some (true, 0)) env (flattenT r ++ rest) = seqOut (specT env r) (fun e => run none e rest)
  | .endif => by simp [flattenT, run, specT, seqOut]
  | .els bs => by
      simp only [flattenT, List.cons_append, List.append_assoc, run, specT, and_self, if_true]
      rw [refBs env _ bs]; rfl
  | .elif c t r => by
      simp only [flattenT, List.cons_append, List.append_assoc, run, specT, and_self, if_true]
      split
      · rw [refBs env _ t]
        congr 1; funext e; exact doneT e rest r
      · rw [skipBs true 0 env _ t]
        exact refT env rest r
end

theorem run_refines (env : Env) (p : Blocks Env) : run none env (flattenBs p) = specBs env p := by
  have := refBs env [] p
  simpa [seqOut, run] using this

end IgVerif.Cond
