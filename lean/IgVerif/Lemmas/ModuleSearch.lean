import IgVerif.Lemmas.Query
/-!
# The module table and `binary_search_module`

In every reachable state the registered modules hold index ranges `[first, next)` in registration
order, without overlap and below the next free index (`modInv_reachable`; maintained in the list
form `Laid`, through what a call does to the table, `qstep_layout`).  On such a table the search
comes out at the last module that starts at or below the index (`bsearchModule_spec`), the only one
whose range can hold it — the fact behind `interrogate_wrapper_pointer` answering from the right
module's table.
-/
namespace IgVerif

def mfirst (mods : List ModDef) (i : Nat) : Int := (mods.getD i {}).first
def mnext (mods : List ModDef) (i : Nat) : Int := (mods.getD i {}).next

/-- ranges are well-formed and laid out in order without overlap -/
structure RangesOk (mods : List ModDef) : Prop where
  wf : ∀ i, i < mods.length → mfirst mods i ≤ mnext mods i
  ordered : ∀ i j, i < j → j < mods.length → mnext mods i ≤ mfirst mods j

theorem RangesOk.first_mono {mods : List ModDef} (h : RangesOk mods) (i j : Nat) (hij : i ≤ j) (hj : j < mods.length) :
    mfirst mods i ≤ mfirst mods j := by
  rcases Nat.lt_or_eq_of_le hij with hlt | rfl
  · exact Int.le_trans (h.wf i (Nat.lt_trans hlt hj)) (h.ordered i j hlt hj)
  · exact Int.le_refl _

/-- The search answers below `e`; on ordered ranges, started at a module whose first index is not
above `fn`, it returns the last such module. -/
theorem bsearchModule_spec (mods : List ModDef) (fn : Int) (fuel b e : Nat) (hbe : b < e) (hf : e - b < fuel) :
    bsearchModule mods fn fuel b e < e ∧
    (RangesOk mods → e ≤ mods.length → mfirst mods b ≤ fn →
      mfirst mods (bsearchModule mods fn fuel b e) ≤ fn ∧
      ∀ j, bsearchModule mods fn fuel b e < j → j < e → fn < mfirst mods j) := by
  fun_induction bsearchModule mods fn fuel b e with
  | case1 b e => exact absurd hf (Nat.not_lt_zero _)
  | case2 fuel b e mid hmb =>
    have hm : mid = b := eq_of_beq hmb
    rw [hm]
    refine ⟨hbe, fun _ _ hb => ⟨hb, fun j h1 h2 => ?_⟩⟩
    rw [(mid_spec hbe).2.2 hm] at h2
    exact absurd h1 (Nat.not_lt.mpr (Nat.le_of_lt_succ h2))
  | case3 fuel b e mid hmb hle ih =>
    obtain ⟨hm1, hm2, -⟩ := mid_spec hbe
    have hlt : b < mid := Nat.lt_of_le_of_ne hm1 fun h => hmb (beq_iff_eq.mpr h.symm)
    obtain ⟨h1, h2⟩ := ih hm2 (fuel_step hf hlt (Nat.le_of_lt hm2) hm1 hm2).1
    exact ⟨h1, fun hok he _ => h2 hok he hle⟩
  | case4 fuel b e mid hmb hgt ih =>
    obtain ⟨hm1, hm2, -⟩ := mid_spec hbe
    have hlt : b < mid := Nat.lt_of_le_of_ne hm1 fun h => hmb (beq_iff_eq.mpr h.symm)
    obtain ⟨h1, h2⟩ := ih hlt (fuel_step hf hlt (Nat.le_of_lt hm2) hm1 hm2).2
    refine ⟨Nat.lt_trans h1 hm2, fun hok he hb => ?_⟩
    obtain ⟨h3, h4⟩ := h2 hok (Nat.le_trans (Nat.le_of_lt hm2) he) hb
    refine ⟨h3, fun j hj1 hj2 => ?_⟩
    by_cases hjm : j < mid
    · exact h4 j hj1 hjm
    · -- beyond `mid` the first indices are no smaller than at `mid`
      exact Int.lt_of_lt_of_le (Int.not_le.mp hgt)
        (hok.first_mono mid j (Nat.le_of_not_lt hjm) (Nat.lt_of_lt_of_le hj2 he))

theorem getFptr_sound {s : St} {w : Int} {mi : Nat} {off : Int} (h : s.getFptr w = some (mi, off)) :
    mi < s.modules.length ∧ mfirst s.modules mi ≤ w ∧ w < mnext s.modules mi ∧
      off = w - mfirst s.modules mi ∧ off < (s.modules.getD mi {}).numFptrs := by
  unfold St.getFptr at h
  split at h
  · cases h
  · next hne =>
    have hpos : 0 < s.modules.length := List.length_pos_iff.mpr (by simpa using hne)
    simp only at h
    split at h
    · next hnext =>
      split at h
      · next hoff =>
        cases h
        exact ⟨(bsearchModule_spec s.modules w _ 0 _ hpos (Nat.lt_succ_self _)).1,
          Int.sub_nonneg.mp hoff.1, hnext, rfl, hoff.2⟩
      · cases h
    · cases h

/-- the invariant: ranges in order, all below the next free index -/
structure ModInv (s : St) : Prop where
  ok : RangesOk s.modules
  below : ∀ i, i < s.modules.length → mnext s.modules i ≤ s.db.nextIndex

/-- the same said of the list, the form in which it is maintained: every range is well-formed
and ends at or below `n`, and each ends before all later ones begin -/
structure Laid (n : Int) (mods : List ModDef) : Prop where
  wf : ∀ a ∈ mods, a.first ≤ a.next ∧ a.next ≤ n
  sep : mods.Pairwise (fun a b => a.next ≤ b.first)

theorem Laid.modInv {s : St} (h : Laid s.db.nextIndex s.modules) : ModInv s := by
  have get : ∀ i (hi : i < s.modules.length), s.modules.getD i {} = s.modules[i] :=
    fun i hi => (List.getElem_eq_getD _).symm
  refine ⟨⟨fun i hi => ?_, fun i j hij hj => ?_⟩, fun i hi => ?_⟩
  · rw [mfirst, mnext, get i hi]; exact (h.wf _ (List.getElem_mem hi)).1
  · rw [mfirst, mnext, get i (Nat.lt_trans hij hj), get j hj]
    exact List.pairwise_iff_getElem.mp h.sep i j _ hj hij
  · rw [mnext, get i hi]; exact (h.wf _ (List.getElem_mem hi)).2

theorem Laid.mono {n n' : Int} {mods : List ModDef} (h : Laid n mods) (hn : n ≤ n') : Laid n' mods :=
  ⟨fun a ha => ⟨(h.wf a ha).1, Int.le_trans (h.wf a ha).2 hn⟩, h.sep⟩

theorem Laid.snoc {n n' : Int} {mods : List ModDef} (h : Laid n mods) (d : ModDef) (hn : n ≤ n') :
    Laid n' (mods ++ [{ d with first := n, next := n' }]) := by
  refine ⟨fun a ha => ?_, List.pairwise_append.mpr ⟨h.sep, List.pairwise_singleton .., fun a ha b hb => ?_⟩⟩
  · rcases List.mem_append.mp ha with ha | ha
    · exact (h.mono hn).wf a ha
    · rw [List.mem_singleton.mp ha]; exact ⟨hn, Int.le_refl _⟩
  · rw [List.mem_singleton.mp hb]; exact (h.wf a ha).2

/-- what a call does to the range table: nothing while the next free index does not move back,
or one module is registered at the next free index -/
theorem qstep_layout (c : Cfg) (s : St) (op : QOp) :
    ((qstep c s op).modules = s.modules ∧ s.db.nextIndex ≤ (qstep c s op).db.nextIndex) ∨
    ∃ d : ModDef, s.db.nextIndex ≤ (qstep c s op).db.nextIndex ∧ (qstep c s op).modules =
      s.modules ++ [{ d with first := s.db.nextIndex, next := (qstep c s op).db.nextIndex }] := by
  have hcl : (s.checkLatest c).modules = s.modules ∧ s.db.nextIndex ≤ (s.checkLatest c).db.nextIndex :=
    ⟨(checkLatest_reloaded c s).modules, (checkLatest_reloaded c s).next⟩
  cases op with
  | touch => exact .inl hcl
  | lookup k name =>
    rw [qstep, lookup_fst]
    split
    · exact .inl hcl
    · rw [(setCache_frame ..).1, (setCache_frame ..).2.1]
      exact .inl hcl
  | request d =>
    obtain ⟨bh, rq, e⟩ := requestModule_effect s d
    rw [qstep, e, rmAssign_fst]
    split
    · next h => exact .inr ⟨d, Int.le_add_of_nonneg_right (Int.le_of_lt h), rfl⟩
    · exact .inl ⟨rfl, Int.le_refl _⟩

/-- every state reachable through the request / lookup / accessor interface keeps its module
ranges in registration order, pairwise disjoint and below the next free index -/
theorem modInv_reachable (c : Cfg) (ops : List QOp) : ModInv (ops.foldl (qstep c) {}) := by
  refine (reachable_induction (P := fun s => Laid s.db.nextIndex s.modules)
    ⟨fun _ h => (nomatch h), List.Pairwise.nil⟩ (fun s op h => ?_) ops).modInv
  rcases qstep_layout c s op with ⟨hm, hn⟩ | ⟨d, hn, hm⟩ <;> rw [hm]
  · exact h.mono hn
  · exact h.snoc d hn

end IgVerif
