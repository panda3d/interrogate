import IgVerif.Model.CType
/-! The printed text of a type derives, in the declarator grammar, exactly that type. -/
namespace IgVerif.CT
open Tok

/-- the pointer operators collected in the prename, outermost first -/
inductive PreOps : List Tok → ADecl → ADecl → Prop
  | nil {d} : PreOps [] d d
  | ptr {ts d0 d} : PreOps ts d0 d → PreOps (star :: ts) d0 (.ptr false d)
  | ptrc {ts d0 d} : PreOps ts d0 d → PreOps (star :: kconst :: ts) d0 (.ptr true d)
  | lref {ts d0 d} : PreOps ts d0 d → PreOps (amp :: ts) d0 (.lref d)
  | rref {ts d0 d} : PreOps ts d0 d → PreOps (ampamp :: ts) d0 (.rref d)

theorem preOps_ptrD {pre nm dn d} (hp : PreOps pre dn d) (hn : NoPtrD nm dn) : PtrD (pre ++ nm) d := by
  induction hp with
  | nil => exact PtrD.noptr hn
  | ptr _ ih => exact PtrD.ptr (ih hn)
  | ptrc _ ih => exact PtrD.ptrc (ih hn)
  | lref _ ih => exact PtrD.lref (ih hn)
  | rref _ ih => exact PtrD.rref (ih hn)

theorem preOps_name {pre dn d} (hp : PreOps pre dn d) : declName d = declName dn := by
  induction hp with
  | nil => rfl
  | ptr _ ih | ptrc _ ih | lref _ ih | rref _ ih => exact ih

/-- a prename that is not empty starts with a pointer operator: the tests of the array and of the function printer agree -/
theorem preOps_ops {pre dn d} (hp : PreOps pre dn d) (h : pre.isEmpty = false) : pre.any isPtrOp = true := by
  cases hp with
  | nil => cases h
  | _ => rfl

/-- what arrays and functions make of prename and name: `name`, or `(prename name)` -/
def wrapName (pre nm : List Tok) : List Tok := if pre.isEmpty then nm else lp :: (pre ++ nm) ++ [rp]

theorem wrapName_noPtrD {pre nm dn d} (hp : PreOps pre dn d) (hn : NoPtrD nm dn) : NoPtrD (wrapName pre nm) d := by
  unfold wrapName
  split
  · cases hp with
    | nil => exact hn
    | _ => contradiction
  · exact NoPtrD.paren (preOps_ptrD hp hn)

theorem oi_arr {pre dn d} (hp : PreOps pre dn d) (u : CType) (n : Option Nat) (nm : List Tok) :
    oi (.arr u n) pre nm = oi u [] (wrapName pre nm ++ brackets n) := by
  rw [oi, wrapName]
  cases pre with
  | nil => rfl
  | cons =>
    rw [if_pos (preOps_ops hp rfl)]
    simp

theorem oi_fn (r : CType) (ps : CParams) (v : Bool) (pre nm : List Tok) :
    oi (.fn r ps v) pre nm = oi r [] (wrapName pre nm ++ lp :: (oparams ps v ++ [rp])) := by
  rw [oi, wrapName]
  split <;> simp

mutual
/-- **Main lemma.** If the name part derives the noptr-declarator `dn` and the prename is a
stack of pointer operators turning `dn` into `d`, then the text printed for `t` derives the
declaration whose type is `denote d t`. -/
theorem oi_denotes : (t : CType) → WF t = true → (pre nm : List Tok) → (dn d : ADecl) →
    NoPtrD nm dn → PreOps pre dn d → DeclG (oi t pre nm) (denote d t) (declName dn)
  | .base s, _, pre, nm, dn, d, hn, hp => by
    rw [oi, ← preOps_name hp]
    exact DeclG.plain (preOps_ptrD hp hn)
  | .const u, hw, pre, nm, dn, d, hn, hp => by
    match u, hw with
    | .base s, _ =>
      rw [oi, oi, ← preOps_name hp]
      exact DeclG.cst (preOps_ptrD hp hn)
    | .ptr u, hw => exact oi_denotes u hw (star :: kconst :: pre) nm dn (.ptr true d) hn (PreOps.ptrc hp)
  | .ptr u, hw, pre, nm, dn, d, hn, hp => oi_denotes u hw (star :: pre) nm dn (.ptr false d) hn (PreOps.ptr hp)
  | .lref u, hw, pre, nm, dn, d, hn, hp => oi_denotes u hw (amp :: pre) nm dn (.lref d) hn (PreOps.lref hp)
  | .rref u, hw, pre, nm, dn, d, hn, hp => oi_denotes u hw (ampamp :: pre) nm dn (.rref d) hn (PreOps.rref hp)
  | .arr u n, hw, pre, nm, dn, d, hn, hp => by
    rw [oi_arr hp, ← preOps_name hp]
    exact oi_denotes u hw [] _ (.arr d n) (.arr d n) (NoPtrD.arr n (wrapName_noPtrD hp hn)) PreOps.nil
  | .fn r ps v, hw, pre, nm, dn, d, hn, hp => by
    obtain ⟨hr, hps⟩ := Bool.and_eq_true_iff.1 hw
    rw [oi_fn, ← preOps_name hp]
    exact oi_denotes r hr [] _ (.fn d ps v) (.fn d ps v) (NoPtrD.fn (wrapName_noPtrD hp hn) (oparams_denotes ps hps v)) PreOps.nil
theorem oparams_denotes : (ps : CParams) → WFs ps = true → (v : Bool) → ParamsG (oparams ps v) ps v
  | .nil, _, false => ParamsG.voidp
  | .nil, _, true => ParamsG.dots
  | .cons t n rest, hw, v => by
    obtain ⟨ht, hrest⟩ := Bool.and_eq_true_iff.1 hw
    rw [oparams]
    exact ParamsG.list (otail_denotes rest hrest v t n _ (oi_denotes t ht [] (nameToks n) (.name n) (.name n) (NoPtrD.id n) PreOps.nil))
theorem otail_denotes : (rest : CParams) → WFs rest = true → (v : Bool) → (t : CType) → (n : Option String) →
    (ts : List Tok) → DeclG ts t n → ParamList (ts ++ otail rest v) (.cons t n rest) v
  | .nil, _, false, t, n, ts, hd => by simpa [otail] using ParamList.one hd
  | .nil, _, true, t, n, ts, hd => ParamList.oneV hd
  | .cons t' n' rest', hw, v, t, n, ts, hd => by
    obtain ⟨ht, hrest⟩ := Bool.and_eq_true_iff.1 hw
    rw [otail]
    exact ParamList.cons hd (otail_denotes rest' hrest v t' n' _ (oi_denotes t' ht [] (nameToks n') (.name n') (.name n') (NoPtrD.id n') PreOps.nil))
end

theorem unroll_append (xs ys : List Mod) (b : CType) : unroll (xs ++ ys) b = unroll xs (unroll ys b) := by
  induction xs with
  | nil => rfl
  | cons x xs ih => simp [unroll, ih]

theorem unroll_mods (cd : CDecl) : ∀ b, unroll (mods cd) b = denote (erase cd) b := by
  induction cd with
  | name n => intro b; rfl
  | ptr c d ih => intro b; cases c <;> simp [mods, erase, denote, unroll_append, unroll, wrap, ih]
  | paren d ih => intro b; simp [mods, erase, unroll_append, unroll, wrap, ih]
  | _ => intro b; simp [mods, erase, denote, unroll_append, unroll, wrap, *]

end IgVerif.CT
