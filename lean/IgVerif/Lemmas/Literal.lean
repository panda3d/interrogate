import IgVerif.Model.Literal
/-! `get_number`: the digit loop collects exactly the digits of a literal, in any of the bases,
through the digit separators written between them (`takeDigits_withSeps`); what remains of
`getNumber` is the choice of base by prefix (`getNumber_0x`, `getNumber_0b`, `getNumber_nonzero`). -/
namespace IgVerif.Lit

/-- the input after the literal neither continues the digit sequence nor starts with a separator -/
def Stop (p : Nat → Bool) (rest : List Nat) : Prop := ∀ c, rest.head? = some c → p c = false ∧ c ≠ 39

theorem isHex_of_isDec {d : Nat} (h : isDec d = true) : isHex d = true := by simp [isHex, h]

theorem isHex_of_isBin {d : Nat} (h : isBin d = true) : isHex d = true := by
  simp only [isBin, Bool.or_eq_true, beq_iff_eq] at h
  rcases h with rfl | rfl <;> decide

theorem skipSep_digit (d : Nat) (rest : List Nat) (h : isHex d = true) :
    skipSep (d :: rest) = d :: rest ∧ skipSep (39 :: d :: rest) = d :: rest := by
  have hne : d ≠ 39 := by rintro rfl; simp [isHex, isDec] at h
  simp [skipSep, h, hne]

theorem skipSep_stop (p : Nat → Bool) (rest : List Nat) (h : Stop p rest) : skipSep rest = rest := by
  unfold skipSep
  split
  · exact absurd rfl (h 39 rfl).2
  · rfl

theorem takeDigits_stop (p : Nat → Bool) (fuel : Nat) (rest : List Nat) (h : Stop p rest) : takeDigits p fuel rest = ([], rest) := by
  cases fuel with
  | zero => rfl
  | succ f =>
    cases rest with
    | nil => rfl
    | cons c r => simp [takeDigits, (h c rfl).1]

theorem withSeps_cons_head (d : Nat) (ds : List Nat) (bs : List Bool) : ∃ tl, withSeps (d :: ds) bs = d :: tl := by
  cases ds with
  | nil => exact ⟨[], rfl⟩
  | cons d2 ds =>
    match bs with
    | [] => exact ⟨_, rfl⟩
    | false :: bs => exact ⟨_, rfl⟩
    | true :: bs => exact ⟨_, rfl⟩

theorem withSeps_cons (p : Nat → Bool) (d : Nat) (ds : List Nat) (bs : List Bool) (rest : List Nat)
    (hd : ∀ x ∈ ds, isHex x = true) (hs : Stop p rest) :
    ∃ tl bs', withSeps (d :: ds) bs = d :: tl ∧ skipSep (tl ++ rest) = withSeps ds bs' ++ rest := by
  cases ds with
  | nil => exact ⟨[], [], rfl, skipSep_stop p rest hs⟩
  | cons d2 ds =>
    have key (bs' : List Bool) : let t := withSeps (d2 :: ds) bs' ++ rest; skipSep t = t ∧ skipSep (39 :: t) = t := by
      obtain ⟨tl, e⟩ := withSeps_cons_head d2 ds bs'
      rw [e]
      exact skipSep_digit d2 _ (hd d2 (List.mem_cons_self ..))
    match bs with
    | [] => exact ⟨_, [], rfl, (key []).1⟩
    | false :: bs => exact ⟨_, bs, rfl, (key bs).1⟩
    | true :: bs => exact ⟨_, bs, rfl, (key bs).2⟩

theorem skipSep_length_le (s : List Nat) : (skipSep s).length ≤ s.length := by
  unfold skipSep
  split
  · split <;> simp
  · exact Nat.le_refl _

/-- **The digit loop collects exactly the digits**, wherever separators were written between them.
`hh`: whatever the base, `skip_digit_separator` drops a `'` only before a hexadecimal digit.
`hf`: the fuel `get_number` gives the loop, the length of the text, is enough. -/
theorem takeDigits_withSeps (p : Nat → Bool) (ds : List Nat) (bs : List Bool) (rest : List Nat) (fuel : Nat)
    (hp : ∀ d ∈ ds, p d = true) (hh : ∀ {d}, p d = true → isHex d = true) (hs : Stop p rest)
    (hf : (withSeps ds bs ++ rest).length < fuel) :
    takeDigits p fuel (withSeps ds bs ++ rest) = (ds, rest) := by
  induction ds generalizing bs fuel with
  | nil => exact takeDigits_stop p fuel rest hs
  | cons d ds ih =>
    obtain ⟨hpd, hp⟩ := List.forall_mem_cons.mp hp
    obtain ⟨tl, bs', e, hsk⟩ := withSeps_cons p d ds bs rest (fun x hx => hh (hp x hx)) hs
    rw [e, List.cons_append] at hf ⊢
    cases fuel with
    | zero => cases hf
    | succ f =>
      have hlen := skipSep_length_le (tl ++ rest)
      rw [hsk] at hlen
      rw [takeDigits, if_pos hpd, hsk, ih bs' f hp (Nat.lt_of_le_of_lt hlen (Nat.lt_of_succ_lt_succ hf))]

theorem getNumber_0x (x : Nat) (hx : x = 120 ∨ x = 88) (s : List Nat) :
    getNumber (48 :: x :: s) = some (strtol 16 (takeDigits isHex (s.length + 2) s).1, .hex, (takeDigits isHex (s.length + 2) s).2) := by
  rcases hx with rfl | rfl <;> rfl

theorem getNumber_0b (x : Nat) (hx : x = 98 ∨ x = 66) (s : List Nat) :
    getNumber (48 :: x :: s) = some (strtol 2 (takeDigits isBin (s.length + 2) s).1, .bin, (takeDigits isBin (s.length + 2) s).2) := by
  rcases hx with rfl | rfl <;> rfl

theorem getNumber_nonzero (t : List Nat) (c : Nat) (ht : t.head? = some c) (hc : isDec c = true) (h0 : c ≠ 48) :
    getNumber t =
      some (strtol 10 (takeDigits isDec (t.length + 1) t).1, .dec, (takeDigits isDec (t.length + 1) t).2) := by
  cases t with
  | nil => cases ht
  | cons c' s => cases ht; simp [getNumber, hc, h0]

end IgVerif.Lit
