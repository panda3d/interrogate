import IgVerif.Lemmas.ModuleCycle
/-! What the ordering loop keeps true.  The loop makes four moves (`Moves`), and whatever they preserve
holds after a pass, after the no-progress branch and of the loop's result (`pass_ind`, `breakFold_ind`,
`run_ind`).  They preserve the invariant `Inv` (no library twice, every unbroken dependency emitted
first) and the fact that only edges of genuine cycles are reported broken (`run_broken_ok`). -/
namespace IgVerif.MO

theorem passOne_eq (d : Deps) (libs : List String) (added : Bool) (name : String) :
    passOne (d, libs, added) name =
      let d' := d.set name ((d.get name).filter (fun x => !libs.contains x))
      if d'.get name = [] ∧ name ∉ libs then (d', libs ++ [name], true) else (d', libs, added) := by
  simp [passOne, get_set]

/-- One step of the no-progress branch: a search, which only looks keys up, and then either nothing
more or the erasure of an edge `a → b` with `a` reachable from `b`.  In a stuck map whose keys the fuel
covers, a search from a library with dependencies that erases nothing has inserted a key. -/
theorem breakOne_spec (fuel : Nat) (d : Deps) (br : List (String × String)) (name : String) :
    ∃ d', Ext d d' ∧
      ((breakOne fuel (d, br) name = (d', br) ∧
          (d.get name ≠ [] → Stuck d → d.length ≤ fuel → nu d' < nu d)) ∨
        ∃ a b, b ∈ d'.get a ∧ Reach d' b a ∧
          breakOne fuel (d, br) name = (d'.set a ((d'.get a).filter (fun x => x != b)), br ++ [(a, b)])) := by
  rw [breakOne.eq_1]
  split
  · rename_i h
    exact ⟨d, Ext.refl d, .inl ⟨rfl, fun hne => absurd (List.isEmpty_iff.mp h) hne⟩⟩
  · rename_i hne
    have hne : d.get name ≠ [] := fun e => hne (by simp [e])
    have hhas := has_of_get_ne_nil d name hne
    simp only [touch_of_has d name hhas]
    have hat : At d [name] name (d.get name) := ⟨trivial, rfl, fun _ h => h⟩
    have sp := findCycle_spec fuel d [] [name] (d.get name) name hat
    have pr := fun hs hf => findCycle_descends fuel d [] [name] (d.get name) name hat hne
      (by simpa using hhas) (by simp) nofun hs (by simpa using Nat.lt_succ_of_le hf)
    generalize findCycle fuel d [] [name] (d.get name) = r at sp pr
    obtain ⟨d', vis', o⟩ := r
    refine ⟨d', sp.1, ?_⟩
    cases o with
    | none => exact .inl ⟨rfl, fun _ hs hf => (pr hs hf).resolve_right (fun h => h rfl)⟩
    | some c =>
      obtain ⟨a, b, tl, rfl, hb, hr⟩ := (sp.2 c rfl).first_edge
      exact .inr ⟨a, b, hb, hr, rfl⟩

/-- The loop does four things to its state and nothing else: `passOne` prunes the emitted libraries
from the set of a key and may then emit the key; `breakOne` runs a search, which only looks keys up, and
may then erase the first edge of the cycle found (`breakOne_spec`).  `Moves P`: each of the four
preserves `P`. -/
structure Moves (P : Deps → List String → List (String × String) → Prop) : Prop where
  prune : ∀ d libs br name, d.has name = true → P d libs br →
    P (d.set name ((d.get name).filter (fun x => !libs.contains x))) libs br
  emit : ∀ d libs br name, d.has name = true → d.get name = [] → name ∉ libs → P d libs br →
    P d (libs ++ [name]) br
  search : ∀ d d' libs br, Ext d d' → P d libs br → P d' libs br
  erase : ∀ d libs br a b, b ∈ d.get a → Reach d b a → P d libs br →
    P (d.set a ((d.get a).filter (fun x => x != b))) libs (br ++ [(a, b)])

/-- a pass keeps the keys, so every name it comes to is a key of the map of that moment -/
theorem pass_ind {P : Deps → List String → List (String × String) → Prop} (hP : Moves P)
    (d : Deps) (libs : List String) (br : List (String × String)) (h : P d libs br) :
    P (pass d libs).1 (pass d libs).2.1 br ∧ (pass d libs).1.keys = d.keys := by
  refine List.foldlRecOn (motive := fun st : Deps × List String × Bool => P st.1 st.2.1 br ∧ st.1.keys = d.keys)
    _ _ ⟨h, rfl⟩ ?_
  intro ⟨d', libs', added⟩ ⟨h, hk⟩ name hname
  have hn : d'.has name = true := by rw [has_iff, hk]; exact hname
  have hk' := (keys_set_has d' name ((d'.get name).filter (fun x => !libs'.contains x)) hn).trans hk
  have h' := hP.prune d' libs' br name hn h
  rw [passOne_eq]
  dsimp only
  split
  · rename_i hc
    exact ⟨hP.emit _ libs' br name (by rw [has_iff, hk']; exact hname) hc.1 hc.2 h', hk'⟩
  · exact ⟨h', hk'⟩

theorem breakFold_ind {P : Deps → List String → List (String × String) → Prop} (hP : Moves P)
    (fuel : Nat) (ks : List String) (st : Deps × List (String × String))
    (libs : List String) (br : List (String × String)) (h : P st.1 libs (br ++ st.2)) :
    P (ks.foldl (breakOne fuel) st).1 libs (br ++ (ks.foldl (breakOne fuel) st).2) := by
  refine List.foldlRecOn (motive := fun st : Deps × List (String × String) => P st.1 libs (br ++ st.2)) _ _ h ?_
  intro ⟨d, br'⟩ h name _
  obtain ⟨d', he, ⟨e, -⟩ | ⟨a, b, hb, hr, e⟩⟩ := breakOne_spec fuel d br' name <;> rw [e]
  · exact hP.search d d' libs _ he h
  · rw [← List.append_assoc]
    exact hP.erase d' libs _ a b hb hr (hP.search d d' libs _ he h)

theorem run_ind {P : Deps → List String → List (String × String) → Prop} (hP : Moves P)
    (fuel : Nat) (d : Deps) (libs : List String) (br : List (String × String)) (h : P d libs br) :
    ∃ d', P d' (run fuel d libs br).libs (run fuel d libs br).broken := by
  fun_induction run fuel d libs br with
  | case1 d libs br => exact ⟨d, h⟩
  | case2 fuel d libs br _ d₁ libs₁ hp ih =>
    have h1 := (pass_ind hP d libs br h).1
    rw [hp] at h1
    exact ih h1
  | case3 fuel d libs br _ d₁ libs₁ added hp _ d₂ br₂ hb ih =>
    have h1 := (pass_ind hP d libs br h).1
    rw [hp] at h1
    have h2 := breakFold_ind hP (fuelFor d₁) d₁.keys (d₁, []) libs₁ br (by simpa using h1)
    rw [show d₁.keys.foldl (breakOne (fuelFor d₁)) (d₁, []) = (d₂, br₂) from hb] at h2
    exact ih h2
  | case4 fuel d libs br => exact ⟨d, h⟩

/-- `b` is emitted strictly before `a` -/
def Before (libs : List String) (b a : String) : Prop :=
  ∃ l1 l2, libs = l1 ++ a :: l2 ∧ b ∈ l1

theorem Before.append {libs : List String} {b a : String} (h : Before libs b a) (x : List String) :
    Before (libs ++ x) b a := by
  obtain ⟨l1, l2, e, hb⟩ := h
  exact ⟨l1, l2 ++ x, by rw [e]; simp, hb⟩

/-- the loop invariant, relative to the dependency map `orig` the loop started with -/
structure Inv (orig : Deps) (d : Deps) (libs : List String) (broken : List (String × String)) : Prop where
  nodup : libs.Nodup
  respected : ∀ a ∈ libs, ∀ b ∈ orig.get a, (a, b) ∈ broken ∨ Before libs b a
  pending : ∀ a, a ∉ libs → ∀ b ∈ orig.get a, b ∈ d.get a ∨ (a, b) ∈ broken ∨ b ∈ libs

theorem inv_init (orig : Deps) : Inv orig orig [] [] :=
  ⟨List.nodup_nil, nofun, fun _ _ _ hb => Or.inl hb⟩

theorem inv_mono_broken (orig d : Deps) (libs : List String) (b1 b2 : List (String × String))
    (h : Inv orig d libs b1) : Inv orig d libs (b1 ++ b2) :=
  ⟨h.nodup,
   fun a ha b hb => (h.respected a ha b hb).imp (List.mem_append_left _) id,
   fun a ha b hb => (h.pending a ha b hb).imp id (Or.imp (List.mem_append_left _) id)⟩

/-- Dependencies may be dropped from the set of `k` if each dropped one is recorded as broken or
is emitted: so it is when a pass prunes a set and when the first edge of a cycle is erased. -/
theorem Inv.filter {orig d : Deps} {libs : List String} {br : List (String × String)} (h : Inv orig d libs br)
    (k : String) (p : String → Bool) (hp : ∀ y ∈ d.get k, p y = false → (k, y) ∈ br ∨ y ∈ libs) :
    Inv orig (d.set k ((d.get k).filter p)) libs br := by
  refine ⟨h.nodup, h.respected, fun a ha b hb => ?_⟩
  rw [get_set]
  split
  · rename_i e
    subst e
    refine (h.pending a ha b hb).elim (fun h1 => ?_) .inr
    cases hpb : p b
    · exact .inr (hp b h1 hpb)
    · exact .inl (List.mem_filter.mpr ⟨h1, hpb⟩)
  · exact h.pending a ha b hb

theorem inv_moves (orig : Deps) : Moves (Inv orig) where
  search d d' libs br he h :=
    ⟨h.nodup, h.respected, fun a ha b hb => by rw [he.get]; exact h.pending a ha b hb⟩
  prune d libs br name _ h := h.filter name _ fun y _ hy => .inr (by simpa using hy)
  erase d libs br a b _ _ h :=
    (inv_mono_broken orig d libs br [(a, b)] h).filter a _ fun y _ hy => .inl (by simp [show y = b by simpa using hy])
  emit d libs br name _ he hn h := by
    -- `name` waits for nothing: each of its dependencies is broken or emitted
    refine ⟨nodup_snoc h.nodup hn, fun a ha b hb => ?_, fun a ha b hb => ?_⟩
    · rcases List.mem_append.mp ha with ha | ha
      · exact (h.respected a ha b hb).imp_right (·.append _)
      · obtain rfl := List.mem_singleton.mp ha
        rcases h.pending a hn b hb with h1 | h1 | h1
        · simp [he] at h1
        · exact .inl h1
        · exact .inr ⟨libs, [], rfl, h1⟩
    · have := h.pending a (fun x => ha (List.mem_append_left _ x)) b hb
      exact this.imp_right (Or.imp_right (List.mem_append_left _))

theorem inv_run (orig : Deps) (fuel : Nat) (d : Deps) (libs : List String) (broken : List (String × String))
    (h : Inv orig d libs broken) :
    ∃ d', Inv orig d' (run fuel d libs broken).libs (run fuel d libs broken).broken :=
  run_ind (inv_moves orig) fuel d libs broken h

def Sub (d orig : Deps) : Prop := ∀ k y, y ∈ d.get k → y ∈ orig.get k

def BrokenOk (orig : Deps) (broken : List (String × String)) : Prop :=
  ∀ p ∈ broken, p.2 ∈ orig.get p.1 ∧ Reach orig p.2 p.1

theorem reach_mono {d orig : Deps} (h : Sub d orig) {x y : String} (r : Reach d x y) : Reach orig x y := by
  induction r with
  | refl x => exact Reach.refl x
  | step h1 _ ih => exact Reach.step (h _ _ h1) ih

theorem sub_set_filter (d orig : Deps) (k : String) (p : String → Bool) (h : Sub d orig) :
    Sub (d.set k ((d.get k).filter p)) orig := by
  intro k' y hy
  rw [get_set] at hy
  split at hy
  · rename_i e; exact h _ _ (e ▸ (List.mem_filter.mp hy).1)
  · exact h _ _ hy

/-- the map only loses edges, and every edge reported broken was, when it was erased, on a cycle
of the map of that moment, hence of the map the loop started with -/
theorem brokenOk_moves (orig : Deps) : Moves (fun d _ br => Sub d orig ∧ BrokenOk orig br) where
  prune d _ _ name _ h := ⟨sub_set_filter d orig name _ h.1, h.2⟩
  emit _ _ _ _ _ _ _ h := h
  search d d' _ _ he h := ⟨fun k y hy => h.1 k y (he.get k ▸ hy), h.2⟩
  erase d _ br a b hab hr h := by
    refine ⟨sub_set_filter d orig a _ h.1, fun p hp => ?_⟩
    rcases List.mem_append.mp hp with hp | hp
    · exact h.2 p hp
    · obtain rfl := List.mem_singleton.mp hp
      exact ⟨h.1 _ _ hab, reach_mono h.1 hr⟩

theorem run_broken_ok (orig : Deps) (fuel : Nat) (d : Deps) (libs : List String) (broken : List (String × String))
    (hs : Sub d orig) (hb : BrokenOk orig broken) : BrokenOk orig (run fuel d libs broken).broken :=
  (run_ind (brokenOk_moves orig) fuel d libs broken ⟨hs, hb⟩).elim fun _ h => h.2

end IgVerif.MO
