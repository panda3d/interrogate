import IgVerif.Model.SkipScan
/-! The character-level skipper.  A string literal and a block comment are passed over whatever they
contain: run on `body ++ terminator ++ post`, the scanner leaves the reader at `post`
(`skipString_clean`, `skipC_block`).  The directive lines `#endif`, `#else`, `#if` are evaluated on a
symbolic rest of the text, for every nesting level. -/
namespace IgVerif.Skip

theorem skipString_cons {c : Nat} (h34 : c ≠ 34) (h10 : c ≠ 10) (h92 : c ≠ 92) (n : Nat) (sol : Bool) (r : List Nat) :
    skipString (n + 1) (get sol (c :: r)) = skipString n (get (solAfter sol c) r) := by
  rw [get, skipString]; split <;> simp_all

theorem skipString_clean (body post : List Nat) (hb : ∀ c ∈ body, c ≠ 34 ∧ c ≠ 10 ∧ c ≠ 92)
    (fuel : Nat) (hf : body.length < fuel) (sol : Bool) :
    skipString fuel (get sol (body ++ 34 :: post)) = ⟨some 34, false, post⟩ := by
  induction body generalizing fuel sol with
  | nil =>
    match fuel, hf with
    | fuel + 1, _ => rfl
  | cons b body ih =>
    match fuel, hf with
    | fuel + 1, hf =>
      have hb1 := hb b (List.mem_cons_self ..)
      rw [List.cons_append, skipString_cons hb1.1 hb1.2.1 hb1.2.2]
      exact ih (fun c hc => hb c (List.mem_cons_of_mem _ hc)) fuel (Nat.lt_of_succ_lt_succ hf) _

/-- **The text of a string literal in a skipped group is irrelevant**: whatever it contains
(comment openers, `#`, directive names), scanning resumes after the closing quote in the same
state. -/
theorem skipGroup_string (fuel level : Nat) (sol : Bool) (body post : List Nat)
    (hb : ∀ c ∈ body, c ≠ 34 ∧ c ≠ 10 ∧ c ≠ 92) :
    skipGroup (fuel + 1) level ⟨some 34, sol, body ++ 34 :: post⟩ =
      skipGroup fuel level (skipComment (post.length + 1) (get false post)) := by
  have h := skipString_clean body post hb ((body ++ 34 :: post).length + 1) (by simp; omega) sol
  have h35 : ((34 : Nat) == 35) = false := by decide
  simp only [skipGroup, h35, Bool.false_and, Bool.false_eq_true, if_false, BEq.rfl, if_true, h]

/-- the text contains no `*/` -/
def noClose : List Nat → Bool
  | [] => true
  | 42 :: 47 :: _ => false
  | _ :: r => noClose r

theorem skipC_cons {c : Nat} {r : List Nat} (h : c = 42 → r.head? ≠ some 47) (n : Nat) (sol : Bool) :
    skipC (n + 1) (get sol (c :: r)) = skipC n (get (solAfter sol c) r) := by
  rw [get, skipC]
  split
  · simp_all
  · next heq =>
    cases heq
    have : ((get (solAfter sol 42) r).c == some 47) = false := by
      cases r with
      | nil => rfl
      | cons d r => simpa [get] using h rfl
    simp only [this, Bool.false_eq_true, if_false]
  · rfl

/-- The closing `/` is not white space, so `_start_of_line` is false after a block comment even
if it spans lines: `/* c */ #endif` on one line is no directive. -/
theorem skipC_block (body post : List Nat) (hb : noClose body = true) (fuel : Nat) (hf : body.length + 1 < fuel) (sol : Bool) :
    skipC fuel (get sol (body ++ 42 :: 47 :: post)) = get false post := by
  fun_induction noClose body generalizing fuel sol with
  | case1 =>
    match fuel, hf with
    | fuel + 1, _ => rfl
  | case2 => cases hb
  | case3 b body hne ih =>
    match fuel, hf with
    | fuel + 1, hf =>
      rw [List.cons_append, skipC_cons]
      · exact ih hb fuel (Nat.lt_of_succ_lt_succ hf) _
      · intro hb42
        cases body with
        | nil => simp
        | cons d r => exact fun hd => hne r hb42 (by simpa using hd)

theorem skipC_clean (body post : List Nat) (hb : noClose body = true) (fuel : Nat) (hf : body.length + 1 < fuel) (sol : Bool) :
    skipC fuel (get sol (body ++ 42 :: 47 :: post)) = get ((body ++ [42, 47]).foldl solAfter sol) post := by
  rw [skipC_block body post hb fuel hf, List.foldl_append]
  rfl

/-- **The text of a block comment in a skipped group is irrelevant**: directive names, `#`,
quotes, `//` and line breaks inside it are not seen. -/
theorem skipComment_block (fuel : Nat) (sol : Bool) (body post : List Nat) (hb : noClose body = true) :
    skipComment (fuel + 1) ⟨some 47, sol, 42 :: (body ++ 42 :: 47 :: post)⟩ = skipComment fuel (get false post) := by
  simp only [skipComment, BEq.rfl, if_true]
  rw [skipC_block body post hb _ (by simp)]

/-! Three directive lines, read by evaluating the scanners on them; what follows the line (`post`)
and the nesting level are arbitrary. -/

theorem skipGroup_endif (fuel level : Nat) (post : List Nat) :
    skipGroup (fuel + 1) level ⟨some 35, true, [101, 110, 100, 105, 102, 10] ++ post⟩ =
      if level = 0 then (.endif, ⟨some 10, true, post⟩) else skipGroup fuel (level - 1) ⟨some 10, true, post⟩ := by
  simp [skipGroup, get, solAfter, isSpace, skipWs, skipComment, readWord, isAlnum, skipBlanks, readArgs, word]

theorem skipGroup_else (fuel level : Nat) (post : List Nat) :
    skipGroup (fuel + 1) level ⟨some 35, true, [101, 108, 115, 101, 10] ++ post⟩ =
      if level = 0 then (.els, ⟨some 10, true, post⟩) else skipGroup fuel level ⟨some 10, true, post⟩ := by
  simp [skipGroup, get, solAfter, isSpace, skipWs, skipComment, readWord, isAlnum, skipBlanks, readArgs, word]

theorem skipGroup_if (fuel level : Nat) (post : List Nat) :
    skipGroup (fuel + 1) level ⟨some 35, true, [105, 102, 32, 49, 10] ++ post⟩ =
      skipGroup fuel (level + 1) ⟨some 10, true, post⟩ := by
  simp [skipGroup, get, solAfter, isSpace, skipWs, skipComment, readWord, isAlnum, skipBlanks, readArgs, word]

end IgVerif.Skip
