import IgVerif.Model.Float
/-! Decimal digits as characters: what `takeDigits` reads back, and what `WriteExponent` prints. -/
namespace IgVerif.Fl

theorem toNat_digitChar {d : Nat} (h : d < 10) : (digitChar d).toNat = 48 + d := by
  have hv : (48 + d).isValidChar := Or.inl (by omega)
  simp only [digitChar, Char.ofNat, dif_pos hv]
  rfl

theorem isDig_iff (c : Char) : isDig c = true ↔ 48 ≤ c.toNat ∧ c.toNat ≤ 57 := by
  simp only [isDig, decide_eq_true_eq, Char.le_def, UInt32.le_iff_toNat_le, Char.toNat_val]
  rfl

theorem takeDigits_map_digitChar : ∀ ds : List Nat, (∀ d ∈ ds, d < 10) → takeDigits (ds.map digitChar) = (ds, [])
  | [], _ => rfl
  | d :: ds, h => by
    have hlt := h d List.mem_cons_self
    have hd := toNat_digitChar hlt
    have hi : isDig (digitChar d) = true := (isDig_iff _).2 (by omega)
    simp only [List.map_cons, takeDigits, hi, if_true, hd, Nat.add_sub_cancel_left,
      takeDigits_map_digitChar ds fun x hx => h x (List.mem_cons_of_mem _ hx)]

theorem digitsVal_two (k : Nat) : digitsVal [k / 10, k % 10] = k := by
  show (0 * 10 + k / 10) * 10 + k % 10 = k
  rw [Nat.zero_mul, Nat.zero_add, Nat.div_add_mod']

theorem digitsVal_three (k : Nat) : digitsVal [k / 100, k % 100 / 10, k % 10] = k := by
  show ((0 * 10 + k / 100) * 10 + k % 100 / 10) * 10 + k % 10 = k
  -- `k % 100 / 10` is the tens digit `k / 10 % 10`, and `k / 100 = k / 10 / 10`
  rw [Nat.zero_mul, Nat.zero_add, Nat.mod_mul_right_div_self k 10 10, ← Nat.div_div_eq_div_mul k 10 10,
    Nat.div_add_mod', Nat.div_add_mod']

theorem expDigits (k : Nat) (hk : k < 1000) : ∃ d ds, (∀ x ∈ d :: ds, x < 10) ∧ digitsVal (d :: ds) = k ∧
    (if k ≥ 100 then [digitChar (k / 100), digitChar (k % 100 / 10), digitChar (k % 10)]
     else if k ≥ 10 then [digitChar (k / 10), digitChar (k % 10)] else [digitChar k]) = (d :: ds).map digitChar := by
  have units : k % 10 < 10 := Nat.mod_lt _ (by decide)
  split
  · have hundreds : k / 100 < 10 := Nat.div_lt_of_lt_mul hk
    have tens : k % 100 / 10 < 10 := Nat.div_lt_of_lt_mul (Nat.mod_lt _ (by decide))
    exact ⟨_, [_, _], List.forall_mem_cons.2 ⟨hundreds, List.forall_mem_cons.2 ⟨tens, List.forall_mem_singleton.2 units⟩⟩,
      digitsVal_three k, rfl⟩
  split
  · have tens : k / 10 < 10 := Nat.div_lt_of_lt_mul (by omega)
    exact ⟨_, [_], List.forall_mem_cons.2 ⟨tens, List.forall_mem_singleton.2 units⟩, digitsVal_two k, rfl⟩
  · exact ⟨_, [], List.forall_mem_singleton.2 (by omega), Nat.zero_add k, rfl⟩

/-- `WriteExponent` prints an optional `-` and then the 1–3 decimal digits of `|K|` -/
theorem writeExponent_eq (K : Int) (h : K.natAbs < 1000) :
    ∃ d ds, (∀ x ∈ d :: ds, x < 10) ∧ digitsVal (d :: ds) = K.natAbs ∧
      writeExponent K = (if K < 0 then ['-'] else []) ++ (d :: ds).map digitChar := by
  by_cases hK : K < 0
  · have e : (-K).toNat = K.natAbs := by omega
    simp only [writeExponent, hK, if_true, e, List.append_cancel_left_eq]
    exact expDigits _ h
  · have e : K.toNat = K.natAbs := by omega
    simp only [writeExponent, hK, if_false, e, List.nil_append]
    exact expDigits _ h

end IgVerif.Fl
