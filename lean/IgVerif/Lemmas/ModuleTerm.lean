import IgVerif.Lemmas.ModuleOrder
/-! Termination of the library ordering loop: every round emits a library, erases an
edge or inserts a key, and the cycle search with its visited set finds a cycle (or a
missing key) on its first descent whenever a pass made no progress.  None of the loop's four moves
makes `beta` larger (`Kept`); a pass that emits nothing leaves the map stuck (`PassInv.stuck`), and
then the no-progress branch makes `beta` smaller (`breakFold_lt`). -/
namespace IgVerif.MO

theorem Ext.beta_le {d d' : Deps} (h : Ext d d') : beta d' ≤ beta d := by
  unfold beta; rw [h.edges]; have := h.nu_le; omega

/-- what the loop keeps of the map `d0` of an earlier moment: no key is lost, `beta` is not larger,
the keys stay distinct, and the libraries emitted are distinct keys -/
structure Kept (d0 d : Deps) (libs : List String) : Prop where
  has_mono : ∀ k, d0.has k = true → d.has k = true
  beta_le : beta d ≤ beta d0
  keys : d0.keys.Nodup → d.keys.Nodup
  nodup : libs.Nodup
  keyed : ∀ l ∈ libs, d.has l = true

theorem Kept.refl {d : Deps} {libs : List String} (hnd : libs.Nodup) (hkeyed : ∀ l ∈ libs, d.has l = true) :
    Kept d d libs :=
  ⟨fun _ h => h, Nat.le_refl _, fun h => h, hnd, hkeyed⟩

theorem Kept.filter {d0 d : Deps} {libs : List String} (h : Kept d0 d libs) (k : String) (p : String → Bool)
    (hk : d.has k = true) : Kept d0 (d.set k ((d.get k).filter p)) libs := by
  have h1 := beta_set d k _ hk (List.filter_sublist (p := p))
  have h2 := List.length_filter_le p (d.get k)
  have h3 := h.beta_le
  exact {
    has_mono := fun k' h' => by simp [has_set, h.has_mono k' h']
    beta_le := by omega
    keys := fun hn => keys_set_has d k _ hk ▸ h.keys hn
    nodup := h.nodup
    keyed := fun l hl => by simp [has_set, h.keyed l hl] }

theorem kept_moves (d0 : Deps) : Moves (fun d libs _ => Kept d0 d libs) where
  prune _ _ _ name hn h := h.filter name _ hn
  emit _ _ _ _ hn _ hnl h :=
    { h with
      nodup := nodup_snoc h.nodup hnl
      keyed := fun l hl => (List.mem_append.mp hl).elim (h.keyed l) fun e => List.mem_singleton.mp e ▸ hn }
  search _ _ _ _ he h :=
    { h with
      has_mono := fun k hk => he.has_mono k (h.has_mono k hk)
      beta_le := Nat.le_trans he.beta_le h.beta_le
      keys := fun hn => he.nodup (h.keys hn)
      keyed := fun l hl => he.has_mono l (h.keyed l hl) }
  erase d _ _ a _ hb _ h := h.filter a _ (has_of_get_ne_nil d a (List.ne_nil_of_mem hb))

theorem breakFold_beta_le (fuel : Nat) (ks : List String) (st : Deps × List (String × String)) :
    beta (ks.foldl (breakOne fuel) st).1 ≤ beta st.1 :=
  (breakFold_ind (kept_moves st.1) fuel ks st [] [] (Kept.refl List.nodup_nil nofun)).beta_le

theorem breakOne_lt (fuel : Nat) (d : Deps) (br : List (String × String)) (name : String)
    (hne : d.get name ≠ []) (hs : Stuck d) (hfuel : d.length ≤ fuel) :
    beta (breakOne fuel (d, br) name).1 < beta d := by
  obtain ⟨d', he, ⟨e, hlt⟩ | ⟨a, b, hb, -, e⟩⟩ := breakOne_spec fuel d br name <;> rw [e] <;> dsimp only
  · have := hlt hne hs hfuel
    unfold beta; rw [he.edges]; omega
  · have h1 := beta_set d' a _ (has_of_get_ne_nil d' a (List.ne_nil_of_mem hb))
      (List.filter_sublist (p := fun x => x != b))
    have h2 : ((d'.get a).filter (fun x => x != b)).length < (d'.get a).length :=
      List.length_filter_lt_length_iff_exists.mpr ⟨b, hb, by simp⟩
    have := he.beta_le
    omega

theorem breakFold_lt (fuel : Nat) (ks : List String) (st : Deps × List (String × String))
    (hex : ∃ k ∈ ks, st.1.get k ≠ []) (hs : Stuck st.1) (hfuel : st.1.length ≤ fuel) :
    beta (ks.foldl (breakOne fuel) st).1 < beta st.1 := by
  induction ks with
  | nil => simp at hex
  | cons k ks ih =>
    obtain ⟨d, br⟩ := st
    rw [List.foldl_cons]
    by_cases hk : d.get k = []
    · have hid : breakOne fuel (d, br) k = (d, br) := by rw [breakOne.eq_1]; simp [hk]
      rw [hid]
      obtain ⟨k', hk', hne⟩ := hex
      exact ih ⟨k', (List.mem_cons.mp hk').resolve_left (fun e => hne (e ▸ hk)), hne⟩
    · -- the first library with dependencies: the map is still as the pass left it, so this step
      -- is strict, and the later ones undo nothing
      exact Nat.lt_of_le_of_lt (breakFold_beta_le fuel ks _) (breakOne_lt fuel d br k hk hs hfuel)

/-- A pass from `libs0`, after the keys `seen`.  Once it has emitted something, `libs0` has grown.  Until
then `libs0` is as it was and every key seen waits: nothing emitted is left in its set, and the set is
empty only if the key is emitted. -/
structure PassInv (libs0 seen : List String) (st : Deps × List String × Bool) : Prop where
  grown : st.2.2 = true → libs0.length < st.2.1.length
  same : st.2.2 = false → st.2.1 = libs0 ∧
    ∀ k ∈ seen, (∀ b ∈ st.1.get k, b ∉ libs0) ∧ (k ∉ libs0 → st.1.get k ≠ [])

theorem passOne_inv (libs0 seen : List String) (st : Deps × List String × Bool) (name : String)
    (h : PassInv libs0 seen st) : PassInv libs0 (seen ++ [name]) (passOne st name) := by
  obtain ⟨d, libs, added⟩ := st
  rw [passOne_eq]
  dsimp only
  split
  · refine ⟨fun _ => ?_, nofun⟩
    have : libs0.length ≤ libs.length := by
      cases added with
      | true => exact Nat.le_of_lt (h.grown rfl)
      | false => exact Nat.le_of_eq (congrArg List.length (h.same rfl).1.symm)
    simp only [List.length_append, List.length_singleton]; omega
  · rename_i hc
    refine ⟨h.grown, fun hf => ?_⟩
    obtain ⟨hl, hseen⟩ := h.same hf
    dsimp only at hl hseen hf ⊢
    subst hl
    refine ⟨rfl, fun k hkm => ?_⟩
    by_cases e : k = name
    · -- `name` itself: its set is pruned and, were it empty, `name` would have been emitted
      subst e
      refine ⟨fun b hb => ?_, fun hkl hempty => hc ⟨hempty, hkl⟩⟩
      rw [get_set, if_pos rfl] at hb
      simpa using (List.mem_filter.mp hb).2
    · rw [get_set, if_neg e]
      exact hseen k ((List.mem_append.mp hkm).resolve_right (by simpa using e))

theorem passFold_inv (libs0 : List String) (ks seen : List String) (st : Deps × List String × Bool)
    (h : PassInv libs0 seen st) : PassInv libs0 (seen ++ ks) (ks.foldl passOne st) := by
  induction ks generalizing seen st with
  | nil => simpa using h
  | cons k ks ih => simpa using ih (seen ++ [k]) (passOne st k) (passOne_inv libs0 seen st k h)

theorem pass_inv (d : Deps) (libs : List String) : PassInv libs d.keys (pass d libs) := by
  simpa [pass] using passFold_inv libs d.keys [] (d, libs, false) ⟨nofun, fun _ => ⟨rfl, nofun⟩⟩

theorem PassInv.stuck {libs libs' : List String} {d : Deps} (h : PassInv libs d.keys (d, libs', false)) :
    Stuck d ∧ ∀ k, d.has k = true → k ∉ libs → d.get k ≠ [] := by
  have hw := fun k hk => (h.same rfl).2 k ((has_iff d k).mp hk)
  refine ⟨fun a b hb hk => (hw b hk).2 ?_, fun k hk => (hw k hk).2⟩
  exact (hw a (has_of_get_ne_nil d a (List.ne_nil_of_mem hb))).1 b hb

/-- what the loop's test `libraries.size() < dependencies.size()` means while the libraries emitted are
distinct keys: some key is still to be emitted -/
theorem libs_length_lt_iff (d : Deps) (libs : List String) (hkn : d.keys.Nodup) (hnd : libs.Nodup)
    (hkeyed : ∀ l ∈ libs, d.has l = true) : libs.length < d.length ↔ ∃ k ∈ d.keys, k ∉ libs := by
  rw [length_eq_keys]
  constructor
  · intro hlt
    apply Decidable.byContradiction
    intro h
    have := List.Nodup.length_le_of_subset hkn fun k hk => Decidable.byContradiction fun hkl => h ⟨k, hk, hkl⟩
    omega
  · intro ⟨k, hk, hkl⟩
    exact List.Nodup.length_le_of_subset (List.nodup_cons.mpr ⟨hkl, hnd⟩)
      (List.cons_subset.mpr ⟨hk, fun l hl => (has_iff d l).mp (hkeyed l hl)⟩)

/-- a round that emits something makes `libs` longer and `beta` no larger; one that does not makes
`beta` smaller; and `libs`, without repetition among the keys, is never longer than `beta` -/
theorem run_finishes (fuel : Nat) (d : Deps) (libs : List String) (broken : List (String × String))
    (hkn : d.keys.Nodup) (hnd : libs.Nodup) (hkeyed : ∀ l ∈ libs, d.has l = true)
    (hfuel : beta d < fuel + libs.length) :
    (run fuel d libs broken).finished = true ∧ ∀ k, d.has k = true → k ∈ (run fuel d libs broken).libs := by
  fun_induction run fuel d libs broken with
  | case1 d libs broken =>
    have := path_length_le d libs hnd hkeyed
    unfold beta nu at hfuel; omega
  | case2 fuel d libs broken _ d' libs' hp ih =>
    have kp := (pass_ind (kept_moves d) d libs [] (Kept.refl hnd hkeyed)).1
    have hg : libs.length < libs'.length := (hp ▸ pass_inv d libs).grown rfl
    simp only [hp] at kp
    have := kp.beta_le
    have := ih (kp.keys hkn) kp.nodup kp.keyed (by omega)
    exact ⟨this.1, fun k hk => this.2 k (kp.has_mono k hk)⟩
  | case3 fuel d libs broken hlt d' libs' added hp hadd d'' br hb ih =>
    have ⟨kp, hkeys⟩ := pass_ind (kept_moves d) d libs [] (Kept.refl hnd hkeyed)
    have pi := pass_inv d libs
    rw [← hkeys] at pi
    simp only [hp] at kp hkeys pi
    obtain rfl : added = false := by simpa using hadd
    obtain ⟨hst, hwait⟩ := pi.stuck
    obtain rfl : libs' = libs := (pi.same rfl).1
    obtain ⟨k, hk, hkl⟩ := (libs_length_lt_iff d libs' hkn hnd hkeyed).mp hlt
    rw [← hkeys] at hk
    have hlt2 := breakFold_lt (fuelFor d') d'.keys (d', []) ⟨k, hk, hwait k ((has_iff d' k).mpr hk) hkl⟩ hst
      (by unfold fuelFor; dsimp only; omega)
    have kb := breakFold_ind (kept_moves d) (fuelFor d') d'.keys (d', []) libs' [] kp
    rw [show d'.keys.foldl (breakOne (fuelFor d')) (d', []) = (d'', br) from hb] at hlt2 kb
    have := kp.beta_le
    dsimp only at hlt2 kb
    have := ih (kb.keys hkn) kb.nodup kb.keyed (by omega)
    exact ⟨this.1, fun k hk => this.2 k (kb.has_mono k hk)⟩
  | case4 fuel d libs broken hge =>
    refine ⟨rfl, fun k hk => Decidable.byContradiction fun hkl => hge ?_⟩
    exact (libs_length_lt_iff d libs hkn hnd hkeyed).mpr ⟨k, (has_iff d k).mp hk, hkl⟩

end IgVerif.MO
