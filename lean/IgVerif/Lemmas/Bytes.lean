import IgVerif.Model.Bytes
/-! Lemmas about the decimal codec: `decInt (ws ++ showInt i ++ rest) = (i, rest)`. -/
namespace IgVerif

theorem allSpace_nil : AllSpace [] := fun _ h => nomatch h

theorem allSpace_single {c : Nat} (h : isSpace c = true) : AllSpace [c] :=
  fun _ hd => List.mem_singleton.mp hd ▸ h

theorem allSpace_of_all {w : Bytes} (h : w.all isSpace = true) : AllSpace w :=
  fun c hc => List.all_eq_true.mp h c hc

theorem allSpace_append {u v : Bytes} (hu : AllSpace u) (hv : AllSpace v) : AllSpace (u ++ v) :=
  fun c hc => (List.mem_append.mp hc).elim (hu c) (hv c)

theorem isDigit_iff {c : Nat} : isDigit c = true ↔ 48 ≤ c ∧ c ≤ 57 := by
  simp only [isDigit, Bool.and_eq_true, decide_eq_true_eq]

theorem digit_not_space {c : Nat} (h : isDigit c = true) : isSpace c = false := by
  rw [isDigit_iff] at h
  simp only [isSpace, Bool.or_eq_false_iff, beq_eq_false_iff_ne, Bool.and_eq_false_iff, decide_eq_false_iff_not]
  omega

theorem skipWs_allSpace_append (w s : Bytes) (hw : AllSpace w) : skipWs (w ++ s) = skipWs s := by
  induction w with
  | nil => rfl
  | cons c cs ih =>
    rw [List.cons_append, skipWs, if_pos (hw c List.mem_cons_self)]
    exact ih fun x hx => hw x (List.mem_cons_of_mem _ hx)

theorem skipWs_of_head_nonspace (s : Bytes) (h : ∀ c, s.head? = some c → isSpace c = false) :
    skipWs s = s := by
  cases s with
  | nil => rfl
  | cons c cs => rw [skipWs, if_neg (by rw [h c rfl]; exact Bool.false_ne_true)]

theorem noDigitHead_nil : NoDigitHead [] := by intro c h; simp at h

theorem noDigitHead_of_space (c : Nat) (s : Bytes) (h : isSpace c = true) : NoDigitHead (c :: s) := by
  intro d hd
  cases hd
  cases hdg : isDigit c with
  | false => rfl
  | true => rw [digit_not_space hdg] at h; cases h

/-- only an empty run of whitespace leaves it to `rest` what comes next -/
theorem noDigitHead_append {w rest : Bytes} (hw : AllSpace w) (hr : w = [] → NoDigitHead rest) :
    NoDigitHead (w ++ rest) := by
  cases w with
  | nil => exact hr rfl
  | cons c cs => exact noDigitHead_of_space c _ (hw c List.mem_cons_self)

theorem noDigitHead_append_space (w rest : Bytes) (hw : AllSpace w) (hr : NoDigitHead rest) :
    NoDigitHead (w ++ rest) :=
  noDigitHead_append hw fun _ => hr

theorem isDigit_add {k : Nat} (h : k < 10) : isDigit (48 + k) = true :=
  isDigit_iff.mpr (by omega)

theorem digitsRev_spec (f n : Nat) (h : n < f) :
    (∀ d ∈ digitsRev f n, isDigit d = true) ∧
    (digitsRev f n).foldr (fun d a => a * 10 + (d - 48)) 0 = n ∧ digitsRev f n ≠ [] := by
  fun_induction digitsRev f n
  · omega
  · next f n hn =>
    refine ⟨fun d hd => List.mem_singleton.mp hd ▸ isDigit_add hn, ?_, List.cons_ne_nil _ _⟩
    rw [List.foldr_cons, List.foldr_nil, Nat.zero_mul, Nat.zero_add, Nat.add_sub_cancel_left]
  · next f n hn ih =>
    obtain ⟨h1, h2, _⟩ := ih (by omega)
    refine ⟨fun d hd => ?_, ?_, List.cons_ne_nil _ _⟩
    · rcases List.mem_cons.mp hd with rfl | hd
      · exact isDigit_add (Nat.mod_lt _ (by decide))
      · exact h1 d hd
    · rw [List.foldr_cons, h2, Nat.add_sub_cancel_left]; omega

theorem showNat_digits (n : Nat) : ∀ d ∈ showNat n, isDigit d = true :=
  fun d hd => (digitsRev_spec (n+1) n (by omega)).1 d (List.mem_reverse.mp hd)

theorem showNat_head (n : Nat) : ∃ c cs, showNat n = c :: cs ∧ isDigit c = true := by
  have hne : showNat n ≠ [] := fun h => (digitsRev_spec (n+1) n (by omega)).2.2 (List.reverse_eq_nil_iff.mp h)
  match hs : showNat n, hne with
  | c :: cs, _ => exact ⟨c, cs, rfl, showNat_digits n c (by simp [hs])⟩

theorem showNat_value (n : Nat) : (showNat n).foldl (fun a d => a * 10 + (d - 48)) 0 = n := by
  rw [showNat, List.foldl_reverse]
  exact (digitsRev_spec (n+1) n (by omega)).2.1

theorem readAcc_append (ds : Bytes) (hd : ∀ d ∈ ds, isDigit d = true) (rest : Bytes)
    (hr : NoDigitHead rest) (acc : Nat) :
    readAcc acc (ds ++ rest) = (ds.foldl (fun a d => a * 10 + (d - 48)) acc, rest) := by
  induction ds generalizing acc with
  | nil =>
    cases rest with
    | nil => rfl
    | cons c cs => rw [List.nil_append, readAcc, if_neg (by rw [hr c rfl]; exact Bool.false_ne_true)]; rfl
  | cons d ds ih =>
    rw [List.cons_append, readAcc, if_pos (hd d List.mem_cons_self), List.foldl_cons]
    exact ih (fun x hx => hd x (List.mem_cons_of_mem _ hx)) _

theorem readNat_showNat (n : Nat) (rest : Bytes) (hr : NoDigitHead rest) :
    readNat (showNat n ++ rest) = some (n, rest) := by
  obtain ⟨c, cs, hs, hc⟩ := showNat_head n
  have := readAcc_append (showNat n) (showNat_digits n) rest hr 0
  rw [showNat_value, hs] at this
  rw [hs, List.cons_append, readNat, if_pos hc, ← List.cons_append, this]

/-- The central codec lemma: what `ostream << int` writes, `istream >> int` reads
back, after any leading whitespace and provided the next byte is not a digit. -/
theorem decInt_showInt (i : Int) (hi : FitsInt i) (pre rest : Bytes) (hp : AllSpace pre)
    (hr : NoDigitHead rest) : decInt (pre ++ (showInt i ++ rest)) = .ok (i, rest) := by
  unfold decInt
  rw [skipWs_allSpace_append _ _ hp]
  by_cases hneg : i < 0
  · have h1 : (-(i.natAbs : Int)) = i := by omega
    rw [showInt, if_pos hneg, List.cons_append, skipWs_of_head_nonspace _ (fun c h => by cases h; rfl)]
    simp only [readNat_showNat _ _ hr, h1, if_neg (Int.not_lt.mpr hi.1)]
  · have h1 : ((i.toNat : Nat) : Int) = i := by omega
    obtain ⟨c, cs, hs, hc⟩ := showNat_head i.toNat
    have hrd := readNat_showNat i.toNat rest hr
    rw [showInt, if_neg hneg, skipWs_of_head_nonspace _ (fun d h => by
      rw [hs] at h; cases h; exact digit_not_space hc)]
    rw [hs, List.cons_append] at hrd ⊢
    -- a digit is neither `-` nor `+`
    split
    · next h => cases h; cases hc
    · next h => cases h; cases hc
    · simp only [hrd, h1, if_neg (Int.not_lt.mpr hi.2)]

theorem showInt_ofNat (n : Nat) : showInt (n : Int) = showNat n := by
  rw [showInt, if_neg (Int.not_lt.mpr (Int.natCast_nonneg n)), Int.toNat_natCast]

end IgVerif
