import IgVerif.Model.Path
/-! `standardize` is idempotent and preserves what a path denotes (no symlinks). -/
namespace IgVerif.Path

def isName (c : String) : Bool := c != "." && c != ".."

/-- the bottom of the reversed component stack: nothing, a single leading `.` (relative paths only), or only `..`s -/
def tailOK (rel : Bool) : List String → Bool
  | [] => true
  | ["."] => rel
  | l => l.all (· == "..")

/-- normal form of the reversed component stack: names on top of an allowed bottom -/
def NFr (rel : Bool) : List String → Bool
  | [] => true
  | c :: rest => if isName c then NFr rel rest else tailOK rel (c :: rest)

theorem comp_cases (c : String) : c = "." ∨ c = ".." ∨ isName c = true := by
  by_cases h1 : c = "."
  · exact .inl h1
  by_cases h2 : c = ".."
  · exact .inr (.inl h2)
  exact .inr (.inr (by simp [isName, h1, h2]))

theorem isName_iff {c : String} : isName c = true ↔ c ≠ "." ∧ c ≠ ".." := by simp [isName]

theorem stepR_name {c : String} (h : isName c = true) (racc : List String) (fr : Bool) : stepR racc fr c = c :: racc := by
  rw [isName_iff] at h
  simp [stepR, h.1, h.2]

/-- `Step racc fr c r`: one round of the loop takes the stack `racc` to `r`, by what the component `c`
is and what lies on top of the stack -/
inductive Step : List String → Bool → String → List String → Prop
  | name {racc fr c} : isName c = true → Step racc fr c (c :: racc)
  | dot {racc} : Step racc false "." racc
  | dotFirst {racc} : Step racc true "." ("." :: racc)
  | upNil {fr} : Step [] fr ".." [".."]
  | upUp {rest fr} : Step (".." :: rest) fr ".." (".." :: ".." :: rest)
  | upDot {rest fr} : Step ("." :: rest) fr ".." (".." :: rest)
  | upName {b rest fr} : isName b = true → Step (b :: rest) fr ".." rest

theorem stepR_spec (racc : List String) (fr : Bool) (c : String) : Step racc fr c (stepR racc fr c) := by
  rcases comp_cases c with rfl | rfl | hc
  · cases fr
    · rw [show stepR racc false "." = racc from rfl]; exact .dot
    · exact .dotFirst
  · cases racc with
    | nil => exact .upNil
    | cons b rest =>
      rcases comp_cases b with rfl | rfl | hb
      · exact .upDot
      · exact .upUp
      · have := isName_iff.mp hb
        rw [show stepR (b :: rest) fr ".." = rest by simp [stepR, this.1, this.2]]; exact .upName hb
  · rw [stepR_name hc]; exact .name hc

theorem nfr_name {c : String} (h : isName c = true) (rel : Bool) (rest : List String) : NFr rel (c :: rest) = NFr rel rest := by
  simp [NFr, h]

theorem nfr_dotdot (rel : Bool) (rest : List String) : NFr rel (".." :: rest) = rest.all (· == "..") := by
  cases rest <;> rfl

theorem nfr_dot (rel : Bool) (rest : List String) : NFr rel ("." :: rest) = (rel && rest.isEmpty) := by
  cases rest <;> cases rel <;> rfl

/-- `fr` is set only for the first component of a relative path -/
theorem Step.nfr {racc r : List String} {fr : Bool} {c : String} (hs : Step racc fr c r) (rel : Bool)
    (hfr : fr = true → racc = [] ∧ rel = true) (h : NFr rel racc = true) : NFr rel r = true := by
  cases hs with
  | name hc => rwa [nfr_name hc]
  | dot => exact h
  | dotFirst => obtain ⟨rfl, rfl⟩ := hfr rfl; rfl
  | upNil => rfl
  | upUp => rw [nfr_dotdot] at h ⊢; rwa [List.all_cons, beq_self_eq_true, Bool.true_and]
  | upDot =>
    simp only [nfr_dot, Bool.and_eq_true, List.isEmpty_iff] at h
    rw [h.2]; rfl
  | upName hb => rwa [nfr_name hb] at h

theorem nfr_loop (rel : Bool) (cs racc : List String) (first : Bool) (hfr : first = true → racc = [])
    (h : NFr rel racc = true) : NFr rel (loopR rel racc cs first) = true := by
  induction cs generalizing racc first with
  | nil => exact h
  | cons c cs ih =>
    have hfr' (e : (first && rel) = true) : racc = [] ∧ rel = true := by
      rw [Bool.and_eq_true] at e; exact ⟨hfr e.1, e.2⟩
    exact ih _ false (fun e => nomatch e) ((stepR_spec racc _ c).nfr rel hfr' h)

/-- a normal-form stack is one the loop has built: what lies under the top is in normal form, and
the loop pushes the top back unchanged (it counts as first exactly when nothing lies under it) -/
theorem nfr_cons (rel : Bool) (c : String) (rest : List String) (h : NFr rel (c :: rest) = true) :
    NFr rel rest = true ∧ stepR rest (rest.isEmpty && rel) c = c :: rest := by
  rcases comp_cases c with rfl | rfl | hc
  · simp only [nfr_dot, Bool.and_eq_true, List.isEmpty_iff] at h
    rw [h.1, h.2]; exact ⟨rfl, rfl⟩
  · rw [nfr_dotdot] at h
    cases rest with
    | nil => exact ⟨rfl, rfl⟩
    | cons b t =>
      obtain ⟨rfl, ht⟩ : b = ".." ∧ _ := by simpa using h
      exact ⟨by rwa [nfr_dotdot], rfl⟩
  · exact ⟨by rwa [nfr_name hc] at h, stepR_name hc _ _⟩

/-- replaying a normal-form stack (bottom first) through the loop rebuilds exactly that stack -/
theorem replay (rel : Bool) (r : List String) (h : NFr rel r = true) :
    ∀ (suffix : List String), loopR rel r suffix r.isEmpty = loopR rel [] (r.reverse ++ suffix) true := by
  induction r with
  | nil => intro suffix; rfl
  | cons c rest ih =>
    intro suffix
    obtain ⟨hrest, hstep⟩ := nfr_cons rel c rest h
    rw [List.reverse_cons, List.append_assoc, List.singleton_append, ← ih hrest (c :: suffix), loopR, hstep]
    rfl

/-- a path `standardize` leaves alone: its components are in normal form, and a relative path has some -/
def Normal (p : P) : Prop := NFr (!p.global) p.comps.reverse = true ∧ (p.global = false → p.comps ≠ [])

/-- the early return for `.` is only a shortcut: the loop gives the same -/
theorem stdC_eq (p : P) : stdC p = ⟨p.global,
    if p.global = false ∧ loopR (!p.global) [] p.comps true = [] then ["."]
    else (loopR (!p.global) [] p.comps true).reverse⟩ := by
  unfold stdC
  split
  · next h =>
    obtain ⟨g, cs⟩ := p
    obtain ⟨rfl, rfl⟩ : g = false ∧ cs = ["."] := by simpa using h
    rfl
  · simp only [Bool.and_eq_true, List.isEmpty_iff, List.reverse_eq_nil_iff, Bool.not_eq_true', and_comm]

theorem stdC_global (p : P) : (stdC p).global = p.global := by rw [stdC_eq]

theorem stdC_normal (p : P) : Normal (stdC p) := by
  rw [stdC_eq]
  split
  · next h => rw [Normal, h.1]; exact ⟨rfl, fun _ => nofun⟩
  · next h =>
    refine ⟨?_, fun hg e => h ⟨hg, List.reverse_eq_nil_iff.mp e⟩⟩
    rw [List.reverse_reverse]
    exact nfr_loop _ _ [] true (fun _ => rfl) rfl

theorem stdC_of_normal (p : P) (h : Normal p) : stdC p = p := by
  have := replay _ _ h.1 []
  rw [loopR, List.append_nil, List.reverse_reverse] at this
  rw [stdC_eq, ← this, List.reverse_reverse, if_neg]
  exact fun he => h.2 he.1 (List.reverse_eq_nil_iff.mp he.2)

theorem stdC_idem (p : P) : stdC (stdC p) = stdC p := stdC_of_normal _ (stdC_normal p)

def resolveR (fs : FS) (start : List String) (racc : List String) : Option (List String) :=
  racc.reverse.foldl (walk fs) (some start)

theorem resolveR_cons (fs : FS) (start : List String) (c : String) (racc : List String) :
    resolveR fs start (c :: racc) = walk fs (resolveR fs start racc) c := by
  simp [resolveR, List.foldl_append]

theorem foldl_walk_none (fs : FS) (cs : List String) : cs.foldl (walk fs) none = none := by
  induction cs with
  | nil => rfl
  | cons c cs ih => exact ih

theorem walk_some {fs : FS} {x : Option (List String)} {c : String} {l : List String} (h : walk fs x c = some l) :
    ∃ l0, x = some l0 ∧ fs.isDir l0 = true := by
  cases x with
  | none => cases h
  | some l0 =>
    by_cases hd : fs.isDir l0 = true
    · exact ⟨l0, rfl, hd⟩
    · simp [walk, hd] at h

theorem walk_dot (fs : FS) (x : Option (List String)) (l : List String) (h : walk fs x "." = some l) : x = some l := by
  obtain ⟨l0, rfl, hd⟩ := walk_some h
  simpa [walk, hd] using h

theorem walk_name (fs : FS) (x : Option (List String)) (b : String) (l : List String) (hb : isName b = true)
    (h : walk fs x b = some l) : ∃ l0, x = some l0 ∧ l = l0 ++ [b] := by
  obtain ⟨l0, rfl, hd⟩ := walk_some h
  rw [isName_iff] at hb
  simp only [walk, hd, Bool.not_true, Bool.false_eq_true, if_false, beq_iff_eq, hb.1, hb.2] at h
  split at h
  · exact ⟨l0, rfl, (Option.some.inj h).symm⟩
  · cases h

theorem Step.denotes {racc r : List String} {fr : Bool} {c : String} (hs : Step racc fr c r) (fs : FS)
    (start l l' : List String) (hr : resolveR fs start racc = some l) (hw : walk fs (some l) c = some l') :
    resolveR fs start r = some l' := by
  have push : resolveR fs start (c :: racc) = some l' := by rw [resolveR_cons, hr, hw]
  cases hs with
  | name | dotFirst | upNil | upUp => exact push
  | dot => rw [hr, ← walk_dot fs _ l' hw]
  | upDot =>
    rw [resolveR_cons] at hr
    rw [resolveR_cons, walk_dot fs _ l hr, hw]
  | upName hb =>
    -- `..` from `l0 ++ [b]` leads back to `l0`
    rw [resolveR_cons] at hr
    obtain ⟨l0, h0, rfl⟩ := walk_name fs _ _ l hb hr
    obtain ⟨_, e, hd⟩ := walk_some hw
    cases e
    rw [h0]
    simpa [walk, hd] using hw

theorem loop_denotes (fs : FS) (start : List String) (rel : Bool) (cs racc : List String) (first : Bool)
    (l0 l : List String) (h0 : resolveR fs start racc = some l0) (h : cs.foldl (walk fs) (some l0) = some l) :
    resolveR fs start (loopR rel racc cs first) = some l := by
  induction cs generalizing racc first l0 with
  | nil => cases h; exact h0
  | cons c cs ih =>
    rw [List.foldl_cons] at h
    cases hw : walk fs (some l0) c with
    | none => rw [hw, foldl_walk_none] at h; cases h
    | some l1 => exact ih _ false l1 ((stepR_spec racc _ c).denotes fs start l0 l1 h0 hw) (hw ▸ h)

/-- **Denotation is preserved**: in a tree without symbolic links, whenever a path denotes
an entry, its standardized form denotes the same entry.  Of the tree only this is used: the
working directory is a directory (the empty relative path denotes it unchecked, `.` does not). -/
theorem stdC_denotes (fs : FS) (cwd : List String) (hcwd : fs.isDir cwd = true) (p : P) (l : List String)
    (h : resolve fs cwd p = some l) : resolve fs cwd (stdC p) = some l := by
  have hl := loop_denotes fs _ (!p.global) p.comps [] true _ l rfl h
  rw [stdC_eq]
  split
  · -- the stack is empty: the path leads back to the directory it started from, which `.` names
    next he =>
    rw [he.2] at hl
    simp only [resolveR, he.1] at hl
    cases hl
    simp [resolve, walk, he.1, hcwd]
  · exact hl

end IgVerif.Path
