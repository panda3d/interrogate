import IgVerif.Model.DbFile
/-! Executable (Bool) versions of the conformance predicates, so that the driver
can report whether a generated database meets the hypotheses of the round-trip
theorems, with soundness lemmas. -/
namespace IgVerif

def atomConfB : Atom → AVal → Bool
  | .int _ _, .int i => decide (FitsInt i)
  | .str _ _, .str s => decide ((s.length : Int) ≤ intMax)
  | _, _ => false

def atomsConfB : List Atom → List AVal → Bool
  | [], [] => true
  | a :: as, v :: vs => atomConfB a v && atomsConfB as vs
  | _, _ => false

def fieldConfB (minor : Nat) (e : Env) : Field → Val → Bool
  | .atom a, .a v => atomConfB a v
  | .ints _, .ints l => decide ((l.length : Int) ≤ intMax) && l.all (fun i => decide (FitsInt i))
  | .strs _, .strs l => decide ((l.length : Int) ≤ intMax) && l.all (fun s => decide ((s.length : Int) ≤ intMax))
  | .recs _ sub, .recs l => decide ((l.length : Int) ≤ intMax) && l.all (atomsConfB sub)
  | .intIf _ flag mask dflt _, .a (.int i) => decide (FitsInt i) && (flagSet e flag mask || i == dflt)
  | .intSince _ m _, .a (.int i) => decide (FitsInt i) && (decide (minor ≥ m) || i == 0)
  | _, _ => false

def fieldsConfB (minor : Nat) (e : Env) : List Field → List Val → Bool
  | [], [] => true
  | f :: fs, v :: vs => fieldConfB minor e f v && fieldsConfB minor (envAdd e f v) fs vs
  | _, _ => false

def sectionConfB (minor : Nat) (spec : List Field) (l : List Entry) : Bool :=
  decide ((l.length : Int) ≤ intMax) && l.all (fun e => decide (FitsInt e.1) && fieldsConfB minor [] spec e.2)

def cstrConfB (s : Bytes) : Bool := decide ((s.length : Int) ≤ intMax)

def fileConfB (minor : Nat) (sch : Schema) (f : DbFile) : Bool :=
  decide (FitsInt f.fileId) && cstrConfB f.lib && cstrConfB f.hash && cstrConfB f.mod &&
  sectionConfB minor sch.function f.functions && sectionConfB minor sch.wrapper f.wrappers &&
  sectionConfB minor sch.type f.types && sectionConfB minor sch.manifest f.manifests &&
  sectionConfB minor sch.element f.elements && sectionConfB minor sch.makeSeq f.makeSeqs

theorem atomConfB_sound {a : Atom} {v : AVal} (h : atomConfB a v = true) : AtomConf a v := by
  cases a <;> cases v <;> simp_all [atomConfB, AtomConf]

theorem atomsConfB_sound {as : List Atom} {vs : List AVal} (h : atomsConfB as vs = true) :
    AtomsConf as vs := by
  fun_induction atomsConfB as vs
  · trivial
  · next ih =>
    rw [Bool.and_eq_true] at h
    exact ⟨atomConfB_sound h.1, ih h.2⟩
  · cases h

theorem fieldConfB_sound {minor : Nat} {e : Env} {f : Field} {v : Val}
    (h : fieldConfB minor e f v = true) : FieldConf minor e f v := by
  fun_cases fieldConfB minor e f v
  · exact atomConfB_sound h
  · simp only [fieldConfB, Bool.and_eq_true, decide_eq_true_eq, List.all_eq_true] at h
    exact h
  · simp only [fieldConfB, Bool.and_eq_true, decide_eq_true_eq, List.all_eq_true] at h
    exact h
  · simp only [fieldConfB, Bool.and_eq_true, decide_eq_true_eq, List.all_eq_true] at h
    exact ⟨h.1, fun r hr => atomsConfB_sound (h.2 r hr)⟩
  · simp only [fieldConfB, Bool.and_eq_true, decide_eq_true_eq, Bool.or_eq_true, beq_iff_eq] at h
    exact ⟨h.1, fun hf => h.2.resolve_left (by rw [hf]; exact Bool.false_ne_true)⟩
  · simp only [fieldConfB, Bool.and_eq_true, decide_eq_true_eq, Bool.or_eq_true, beq_iff_eq] at h
    exact ⟨h.1, fun hf => h.2.resolve_left (by omega)⟩
  · simp [fieldConfB] at h

theorem fieldsConfB_sound {minor : Nat} {fs : List Field} {e : Env} {vs : List Val}
    (h : fieldsConfB minor e fs vs = true) : FieldsConf minor e fs vs := by
  fun_induction fieldsConfB minor e fs vs
  · trivial
  · next ih =>
    rw [Bool.and_eq_true] at h
    exact ⟨fieldConfB_sound h.1, ih h.2⟩
  · cases h

theorem sectionConfB_sound {minor : Nat} {spec : List Field} {l : List Entry}
    (h : sectionConfB minor spec l = true) : SectionConf minor spec l := by
  simp only [sectionConfB, Bool.and_eq_true, decide_eq_true_eq, List.all_eq_true] at h
  exact ⟨h.1, fun e he => ⟨(h.2 e he).1, fieldsConfB_sound (h.2 e he).2⟩⟩

theorem fileConfB_sound {minor : Nat} {sch : Schema} {f : DbFile}
    (h : fileConfB minor sch f = true) : FileConf minor sch f := by
  simp only [fileConfB, Bool.and_eq_true, decide_eq_true_eq, cstrConfB] at h
  obtain ⟨⟨⟨⟨⟨⟨⟨⟨⟨a, b⟩, c⟩, d⟩, s1⟩, s2⟩, s3⟩, s4⟩, s5⟩, s6⟩ := h
  exact ⟨a, b, c, d, sectionConfB_sound s1, sectionConfB_sound s2, sectionConfB_sound s3,
    sectionConfB_sound s4, sectionConfB_sound s5, sectionConfB_sound s6⟩

end IgVerif
