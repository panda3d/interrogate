/-!
# Hand-written scanners of `cppPreprocessor.cxx` whose totality C15 depends on

* `scanRaw` — `CPPPreprocessor::scan_raw`: the raw string literal scanner.  `std::string::compare`
  with a start position beyond the end throws `std::out_of_range`; the model makes that outcome
  explicit (`Out.throws`).
* `expandObj` — the recursion of `expand_manifests` / `expand_manifest` over object-like macros
  with the *ignore set* handed down to nested expansions.
-/
namespace IgVerif.Scan

inductive Out (α : Type)
  | ok (a : α)
  | throws
  deriving Repr, DecidableEq

/-- `str.compare(str.size() - delim.size(), delim.size(), delim) == 0`, as the library defines it -/
def compareTail (str delim : List Nat) : Out Bool :=
  if delim.length ≤ str.length then .ok (str.drop (str.length - delim.length) == delim) else .throws

/-- the delimiter: `)` followed by everything up to the opening parenthesis -/
def readDelim : List Nat → List Nat → List Nat × List Nat
  | [], acc => (acc, [])
  | c :: cs, acc => if c == 40 then (acc, cs) else readDelim cs (acc ++ [c])

/-- the body loop of `scan_raw` (after the fix: the length test guards the comparison).
Returns the string and whether the closing quote was seen. -/
def rawLoop (delim : List Nat) : List Nat → List Nat → Out (List Nat × Bool)
  | [], str => .ok (str, false)
  | c :: cs, str =>
    if c == 34 then
      if delim.length ≤ str.length then
        match compareTail str delim with
        | .throws => .throws
        | .ok true => .ok (str.take (str.length - delim.length), true)
        | .ok false => rawLoop delim cs (str ++ [c])
      else rawLoop delim cs (str ++ [c])
    else rawLoop delim cs (str ++ [c])

/-- `scan_raw` on the input that follows `R"` -/
def scanRaw (input : List Nat) : Out (List Nat × Bool) :=
  let d := readDelim input [41]
  rawLoop d.1 d.2 []

/-- the loop as it was before the fix (kept to state what went wrong) -/
def rawLoopOld (delim : List Nat) : List Nat → List Nat → Out (List Nat × Bool)
  | [], str => .ok (str, false)
  | c :: cs, str =>
    if c == 34 then
      match compareTail str delim with
      | .throws => .throws
      | .ok true => .ok (str.take (str.length - delim.length), true)
      | .ok false => rawLoopOld delim cs (str ++ [c])
    else rawLoopOld delim cs (str ++ [c])

/-! ## expansion of object-like macros with an ignore set -/

inductive Tok
  | ident (s : String)
  | other (s : String)
  deriving Repr, DecidableEq

abbrev Table := List (String × List Tok)

def lookup : Table → String → Option (List Tok)
  | [], _ => none
  | (k, v) :: rest, n => if k == n then some v else lookup rest n

/-- names of the table that may still be expanded -/
def live (table : Table) (ignores : List String) : Nat :=
  (table.filter (fun kv => !ignores.contains kv.1)).length

theorem mem_of_lookup {table : Table} {n : String} {body : List Tok} (h : lookup table n = some body) :
    (n, body) ∈ table := by
  fun_induction lookup table n with
  | case1 => cases h
  | case2 k v rest n hk =>
    cases h
    rw [eq_of_beq hk]
    exact List.mem_cons_self
  | case3 k v rest n _ ih => exact List.mem_cons_of_mem _ (ih h)

theorem live_lt (table : Table) (ignores : List String) (n : String) (body : List Tok)
    (h : lookup table n = some body) (hi : ignores.contains n = false) :
    live table (n :: ignores) < live table ignores := by
  -- ignoring `n` as well filters the live entries once more, and the entry `lookup` found drops out
  have hf : table.filter (fun kv => !(n :: ignores).contains kv.1) =
      (table.filter (fun kv => !ignores.contains kv.1)).filter (fun kv => kv.1 != n) := by
    rw [List.filter_filter]
    congr 1; funext kv
    rw [List.contains_cons, Bool.not_or]; rfl
  rw [live, hf]
  exact List.length_filter_lt_length_iff_exists.mpr
    ⟨(n, body), List.mem_filter.mpr ⟨mem_of_lookup h, by rw [hi]; rfl⟩, by simp⟩

/-- `expand_manifests`: every identifier that names a macro not being expanded further up is
replaced by the expansion of its body, in which it is itself ignored **together with everything
ignored so far** (`nested_ignores(ignores)` + `insert`). -/
def expandObj (table : Table) (ignores : List String) : List Tok → List Tok
  | [] => []
  | .other s :: rest => .other s :: expandObj table ignores rest
  | .ident n :: rest =>
    match h : lookup table n with
    | none => .ident n :: expandObj table ignores rest
    | some body =>
      if hi : ignores.contains n then .ident n :: expandObj table ignores rest
      else expandObj table (n :: ignores) body ++ expandObj table ignores rest
termination_by ts => (live table ignores, ts.length)
decreasing_by
  all_goals simp_wf
  · exact Prod.Lex.right _ (by omega)
  · exact Prod.Lex.right _ (by omega)
  · exact Prod.Lex.right _ (by omega)
  · exact Prod.Lex.left _ _ (live_lt table ignores n body h (by simpa using hi))
  · exact Prod.Lex.right _ (by omega)

end IgVerif.Scan
