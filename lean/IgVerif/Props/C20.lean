import IgVerif.Lemmas.Query
import IgVerif.Lemmas.ModuleSearch
import IgVerif.Schema
import IgVerif.Gen.C20Guards
/-!
# C20 — the query interface is total and name lookups are exact
-/
namespace IgVerif.C20

/-- the translator found the accessor functions -/
theorem c20_guards_extracted : Gen.guardExtractionFailed = false := rfl

/-- every place where the C++ indexes a vector/array with a caller-supplied
position sits under `if (n >= 0 && n < bound)` (re-decided on the current source) -/
theorem c20_all_accessors_guarded : (Gen.accessors.all fun a => a.2.2.2.2) = true := by decide +kernel

/-- a guarded accessor returns the neutral value for every out-of-range position … -/
theorem c20_getAt_neutral {α : Type} (l : List α) (n : Int) (d : α) (h : n < 0 ∨ n ≥ (l.length : Int)) :
    getAt l n d = d := by
  unfold getAt
  exact if_neg (by omega)

/-- … and the n-th entry for every valid one; so `count` is exactly the number of
positions at which the accessor returns an entry. -/
theorem c20_getAt_valid {α : Type} (l : List α) (i : Nat) (d : α) (h : i < l.length) :
    getAt l (i : Int) d = l[i] := by
  unfold getAt
  have : ((i : Int) ≥ 0 ∧ (i : Int) < (l.length : Int)) := by omega
  simp [this, h]

/-- an index that names no entry yields the default-constructed (all-neutral) record -/
theorem c20_record_neutral (c : Cfg) (s : St) (k : Kind) (idx : Int) (h : (s.db.map k).find idx = none) :
    s.record c k idx = defaultRec (c.sch.of k) := by
  simp [St.record, h]

/-- the fresh bits are distinct powers of two, so one `int` mask is a faithful set of kinds -/
theorem c20_lookup_bits :
    Gen.lookupBits.map (·.2) = [1, 2, 4, 8, 16, 32] := by decide +kernel

def source (c : Cfg) (s : St) : LookupKind → IMap (List Val) × List Field × String
  | .typeName => (s.db.types, c.sch.type, "_name")
  | .typeScopedName => (s.db.types, c.sch.type, "_scoped_name")
  | .typeTrueName => (s.db.types, c.sch.type, "_true_name")
  | .manifestName => (s.db.manifests, c.sch.manifest, "_name")
  | .elementName => (s.db.elements, c.sch.element, "_name")
  | .elementScopedName => (s.db.elements, c.sch.element, "_scoped_name")

theorem freshMap_source (c : Cfg) (s : St) (k : LookupKind) :
    s.freshMap c k = freshen (source c s k).2.1 (source c s k).1 (source c s k).2.2 := by
  cases k <;> rfl

/-- the state a query operates on: pending database files are loaded first -/
abbrev now (c : Cfg) (s : St) : St := s.checkLatest c

/-- a lookup answers with the last entry, in index order, of the current map that bears the name -/
theorem lookup_last (c : Cfg) (s : St) (k : LookupKind) (name : Bytes) (h : CacheInv c s) :
    (s.lookup c k name).2 = (((source c (now c s) k).1.reverse.find? fun p =>
      getStr (source c (now c s) k).2.1 p.2 (source c (now c s) k).2.2 == name).map (·.1)).getD 0 := by
  rw [lookup_answer c s k name h, freshMap_source, freshen_find]

/-- **Sound**: a non-zero answer is the index of an entry bearing exactly that name. -/
theorem c20_lookup_sound (c : Cfg) (s : St) (k : LookupKind) (name : Bytes) (h : CacheInv c s) (i : Int)
    (hi : (s.lookup c k name).2 = i) (hne : i ≠ 0) :
    ∃ r, (i, r) ∈ (source c (now c s) k).1 ∧ getStr (source c (now c s) k).2.1 r (source c (now c s) k).2.2 = name := by
  rw [lookup_last c s k name h, Option.getD_eq_iff] at hi
  rcases hi with hi | ⟨-, h0⟩
  · obtain ⟨p, hp, rfl⟩ := Option.map_eq_some_iff.mp hi
    exact ⟨p.2, List.mem_reverse.mp (List.mem_of_find?_eq_some hp), by simpa using List.find?_some hp⟩
  · exact absurd h0.symm hne

/-- **Absent**: a name no entry bears yields 0. -/
theorem c20_lookup_absent (c : Cfg) (s : St) (k : LookupKind) (name : Bytes) (h : CacheInv c s)
    (ha : ∀ p ∈ (source c (now c s) k).1, getStr (source c (now c s) k).2.1 p.2 (source c (now c s) k).2.2 ≠ name) :
    (s.lookup c k name).2 = 0 := by
  rw [lookup_last c s k name h, List.find?_eq_none.mpr]
  · rfl
  · exact fun p hp => by simpa using ha p (List.mem_reverse.mp hp)

/-- **Exact**: when exactly one entry bears the name, the answer is that entry
(in general: the last one in index order). -/
theorem c20_lookup_unique (c : Cfg) (s : St) (k : LookupKind) (name : Bytes) (h : CacheInv c s)
    (l1 l2 : IMap (List Val)) (p : Int × List Val)
    (hsplit : (source c (now c s) k).1 = l1 ++ p :: l2)
    (hp : getStr (source c (now c s) k).2.1 p.2 (source c (now c s) k).2.2 = name)
    (h2 : ∀ q ∈ l2, getStr (source c (now c s) k).2.1 q.2 (source c (now c s) k).2.2 ≠ name) :
    (s.lookup c k name).2 = p.1 := by
  -- reversed, the map reads `l2.reverse ++ p :: l1.reverse`, and nothing in `l2` bears the name
  rw [lookup_last c s k name h, hsplit, List.reverse_append, List.reverse_cons, List.append_assoc,
    List.find?_append, List.find?_eq_none.mpr, Option.none_or, List.singleton_append,
    List.find?_cons, hp, beq_self_eq_true]
  · rfl
  · exact fun q hq => by simpa using h2 q (List.mem_reverse.mp hq)

/-- for every sequence of module requests, lookups and other queries — in
particular files requested after a lookup has been answered — the cached tables
that are marked fresh agree with the current maps -/
theorem c20_cache_inv_reachable (c : Cfg) (ops : List QOp) : CacheInv c (ops.foldl (qstep c) {}) :=
  cacheInv_reachable c ops

/-- the search always returns (Lean accepts `bsearchFuel` as structurally
recursive; this says the fuel `length+1` is never exhausted) -/
theorem c20_bsearch_terminates (names : List (Bytes × Int)) (key : Bytes) :
    (bsearchFuel names key (names.length + 1) 0 names.length).isSome = true := by
  rcases bsearch_spec names key with ⟨_, _, _, h⟩ | ⟨h, _⟩ <;> rw [h] <;> rfl

/-- a stored unique name is found … -/
theorem c20_bsearch_found (names : List (Bytes × Int)) (key : Bytes) (off : Int) (hs : SortedNames names)
    (i : Nat) (hi : names[i]? = some (key, off)) : bsearch names key = off := by
  unfold bsearch
  rcases bsearch_spec names key with ⟨j, off', hj, h⟩ | ⟨_, h⟩
  · -- in a strictly ascending table the key occurs once
    rw [h]
    rcases Nat.lt_trichotomy i j with hij | rfl | hij
    · exact absurd (hs.lt hij hi hj) (List.lt_irrefl _)
    · rw [hi] at hj; cases hj; rfl
    · exact absurd (hs.lt hij hj hi) (List.lt_irrefl _)
  · exact absurd rfl (h hs i _ hi)

/-- … any other key — of any length or content — yields -1, sorted table or not -/
theorem c20_bsearch_absent (names : List (Bytes × Int)) (key : Bytes) (ha : ∀ p ∈ names, p.1 ≠ key) :
    bsearch names key = -1 := by
  unfold bsearch
  rcases bsearch_spec names key with ⟨j, off, hj, _⟩ | ⟨h, _⟩
  · exact absurd rfl (ha _ (List.mem_of_getElem? hj))
  · rw [h]; rfl

/-- unknown library prefix (which includes every name shorter than 4 bytes unless a
module registered that short hash) → 0 -/
theorem c20_unique_name_unknown_lib (s : St) (name : Bytes)
    (h : s.byHash.find? (fun p => p.1 == name.take 4) = none) : s.wrapperByUniqueName name = 0 := by
  simp [St.wrapperByUniqueName, h]

theorem c20_unique_name_absent (s : St) (name : Bytes) (d : ModDef) (hm : s.byHash.find? (fun p => p.1 == name.take 4) = some (name.take 4, d))
    (ha : ∀ p ∈ d.uniq, p.1 ≠ name.drop 4) : s.wrapperByUniqueName name = 0 := by
  simp [St.wrapperByUniqueName, hm, c20_bsearch_absent d.uniq _ ha]

theorem c20_unique_name_found (s : St) (name : Bytes) (d : ModDef) (off : Int) (i : Nat)
    (hm : s.byHash.find? (fun p => p.1 == name.take 4) = some (name.take 4, d))
    (hs : SortedNames d.uniq) (hi : d.uniq[i]? = some (name.drop 4, off)) (hoff : off ≥ 0) :
    s.wrapperByUniqueName name = d.first + off := by
  simp [St.wrapperByUniqueName, hm, c20_bsearch_found d.uniq _ off hs i hi, hoff]

/-! ## function pointers: `interrogate_wrapper_pointer` answers from the right module's table -/

/-- in every state reachable through the interface the registered modules hold index ranges that
are in registration order, pairwise disjoint, and below the next free index -/
theorem c20_module_ranges (c : Cfg) (ops : List QOp) :
    RangesOk (ops.foldl (qstep c) {}).modules ∧
    ∀ i, i < (ops.foldl (qstep c) {}).modules.length →
      mnext (ops.foldl (qstep c) {}).modules i ≤ (ops.foldl (qstep c) {}).db.nextIndex :=
  ⟨(modInv_reachable c ops).ok, (modInv_reachable c ops).below⟩

/-- the search itself: on ordered disjoint ranges it returns the module whose range holds the index -/
theorem c20_module_search (mods : List ModDef) (hok : RangesOk mods) (i : Nat) (hi : i < mods.length)
    (w : Int) (hlo : mfirst mods i ≤ w) (hhi : w < mnext mods i) :
    bsearchModule mods w (mods.length + 1) 0 mods.length = i := by
  obtain ⟨hr, h⟩ := bsearchModule_spec mods w (mods.length + 1) 0 mods.length
    (Nat.zero_lt_of_lt hi) (Nat.lt_succ_self _)
  obtain ⟨hle, habove⟩ := h hok (Nat.le_refl _) (Int.le_trans (hok.first_mono 0 i (Nat.zero_le _) hi) hlo)
  generalize bsearchModule mods w (mods.length + 1) 0 mods.length = r at hr hle habove
  -- a later module starts above `w`, an earlier one ends at or below `mfirst mods i`
  rcases Nat.lt_trichotomy r i with hlt | heq | hgt
  · exact absurd hlo (Int.not_le.mpr (habove i hlt hi))
  · exact heq
  · exact absurd (Int.lt_of_lt_of_le hhi (hok.ordered i r hgt hr)) (Int.not_lt.mpr hle)

/-- `get_fptr`: a wrapper index inside the range of module `i` is answered from module `i`'s
table, at the offset from that module's first index -/
theorem getFptr_exact (s : St) (hok : RangesOk s.modules) (i : Nat) (hi : i < s.modules.length)
    (w : Int) (hlo : mfirst s.modules i ≤ w) (hhi : w < mnext s.modules i)
    (hn : w - mfirst s.modules i < (s.modules.getD i {}).numFptrs) :
    s.getFptr w = some (i, w - mfirst s.modules i) := by
  unfold St.getFptr
  rw [if_neg (by cases hm : s.modules <;> simp [hm] at hi ⊢)]
  simp only [c20_module_search s.modules hok i hi w hlo hhi]
  exact (if_pos hhi).trans (if_pos ⟨Int.sub_nonneg_of_le hlo, hn⟩)

/-- **exact**: a wrapper index inside the range of the `i`-th registered module is answered from
that module's pointer table at the offset from the module's first index (whenever the table is that
long), after any history of requests, lookups and other accessors -/
theorem c20_fptr_exact (c : Cfg) (ops : List QOp) (i : Nat) (w : Int)
    (hi : i < (ops.foldl (qstep c) {}).modules.length)
    (hlo : mfirst (ops.foldl (qstep c) {}).modules i ≤ w) (hhi : w < mnext (ops.foldl (qstep c) {}).modules i)
    (hn : w - mfirst (ops.foldl (qstep c) {}).modules i < ((ops.foldl (qstep c) {}).modules.getD i {}).numFptrs) :
    (ops.foldl (qstep c) {}).getFptr w = some (i, w - mfirst (ops.foldl (qstep c) {}).modules i) :=
  getFptr_exact _ (modInv_reachable c ops).ok i hi w hlo hhi hn

/-- **total**: an index that lies in no module's range (negative, zero, between or beyond the
ranges, any 32-bit value) has no pointer — in particular nothing outside the table is read -/
theorem c20_fptr_outside (s : St) (w : Int)
    (hout : ∀ i, i < s.modules.length → w < mfirst s.modules i ∨ mnext s.modules i ≤ w) : s.getFptr w = none := by
  rw [Option.eq_none_iff_forall_ne_some]
  rintro ⟨mi, off⟩ h
  obtain ⟨hi, hlo, hhi, -⟩ := getFptr_sound h
  rcases hout mi hi with h | h
  · exact Int.not_le.mpr h hlo
  · exact Int.not_lt.mpr h hhi

-- three modules of 2, 3 and 1 wrappers registered one after the other: index 4 belongs to the second
example : (([QOp.request { first := 1, next := 3, numFptrs := 2 }, .request { first := 1, next := 4, numFptrs := 3 },
    .request { first := 1, next := 2, numFptrs := 1 }].foldl (qstep cfg) {}).getFptr 4) = some (1, 1) := by decide +kernel

-- a sorted table; a key that is a proper prefix of a stored name, and one that falls between two stored names
example : SortedNames [([97], 0), ([98, 98], 1), ([99], 2)] := by decide +kernel

example : bsearch [([97], 0), ([98, 98], 1), ([99], 2)] [98] = -1 := by decide +kernel
example : bsearch [([98, 98, 98, 98], 0), ([100, 100, 100, 100], 1)] [99, 99, 99, 99] = -1 := by decide +kernel

end IgVerif.C20
