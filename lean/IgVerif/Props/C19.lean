import IgVerif.Lemmas.OutProto
import IgVerif.Gen.C19Proto
/-!
# C19 — a failed or incomplete output write is reported by a non-zero exit status
-/
namespace IgVerif.C19
open IgVerif.OP

/-- the translator recognised every statement of both output sections that touches
an output stream or the exit status -/
theorem c19_extraction_ok : Gen.protoExtractionFailed = false := rfl

/-- **Generic.** A protocol accepted by the syntactic check reports every loss: for
every fault schedule (which open / flush / close fails, and when the buffer happens
to be flushed), lost output data implies a non-zero exit status. -/
theorem c19_generic (p : Proto) (hw : wellChecked p = true) (sched : List Nat)
    (hlost : (run p sched).lost = true) : (run p sched).exitNonZero = true :=
  wellChecked_sound p hw sched hlost

/-- the output section of `interrogate`'s `main` (as the source reads now) passes the check -/
theorem c19_interrogate : wellChecked Gen.interrogateProto = true := by decide +kernel

/-- the output section of `interrogate_module`'s `main` passes the check -/
theorem c19_module : wellChecked Gen.moduleProto = true := by decide +kernel

/-- hence: `interrogate` never exits 0 after losing output on -oc, -od or -oh … -/
theorem c19_interrogate_all_faults (sched : List Nat) (h : (run Gen.interrogateProto sched).lost = true) :
    (run Gen.interrogateProto sched).exitNonZero = true :=
  c19_generic _ c19_interrogate sched h

/-- … and neither does `interrogate_module` on -oc -/
theorem c19_module_all_faults (sched : List Nat) (h : (run Gen.moduleProto sched).lost = true) :
    (run Gen.moduleProto sched).exitNonZero = true :=
  c19_generic _ c19_module sched h

/-- the protocol of the pinned upstream tree for -od: no check after the writer -/
def uncheckedProto : Proto :=
  { returnsStatus := true, body := [.s (.open 1), .ifFailElse 1 true [.write 1]] }

example : wellChecked uncheckedProto = false := by decide +kernel
example : run uncheckedProto [0, 0, 2] = { exitNonZero := false, lost := true } := by decide +kernel
/-- all schedules over {0,1,2} of a given length -/
def scheds : Nat → List (List Nat)
  | 0 => [[]]
  | n+1 => (scheds n).flatMap fun s => [0 :: s, 1 :: s, 2 :: s]

-- some fault schedule does lose data in each extracted protocol (the hypotheses of the *_all_faults theorems are satisfiable)
example : ((scheds 4).any fun s => (run Gen.interrogateProto s).lost) = true := by decide +kernel
example : ((scheds 4).any fun s => (run Gen.moduleProto s).lost) = true := by decide +kernel

end IgVerif.C19
