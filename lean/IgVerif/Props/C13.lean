import IgVerif.Lemmas.MergeOrder
import IgVerif.Lemmas.ModuleSearch
import IgVerif.Lemmas.Mirror
/-!
# C13 — loading several libraries yields one consistent database
-/
namespace IgVerif.C13

/-- **Global-ness is the union.** However two definitions of a type are merged,
the result is global iff one of them was. -/
theorem c13_global_union (sch : Schema) (fc : FlagCfg) (a b : List Val)
    (ha : HasFlags sch.type a) (hb : HasFlags sch.type b) (hg : fc.typeGlobal ≠ 0) :
    hasFlag sch.type (mergeWith sch fc a b) fc.typeGlobal =
      (hasFlag sch.type a fc.typeGlobal || hasFlag sch.type b fc.typeGlobal) := by
  rw [mergeWith_eq]
  split
  · exact global_canon ha hg _
  · rw [global_canon hb hg, Bool.or_comm]

/-- **The fully defined definition wins** over a forward reference: its content is
kept (only the global bit may be added). -/
theorem c13_fully_defined_wins (sch : Schema) (fc : FlagCfg) (a b : List Val)
    (ha : hasFlag sch.type a fc.typeFullyDefined = true) (hb : hasFlag sch.type b fc.typeFullyDefined = false) :
    mergeWith sch fc a b = if hasFlag sch.type b fc.typeGlobal then orFlag sch.type a fc.typeGlobal else a :=
  mergeWith_defined_forward sch fc a b ha hb

/-- … in either load order: a forward reference already present is replaced by
the incoming definition (keeping the global bit). -/
theorem c13_defined_replaces_forward (sch : Schema) (fc : FlagCfg) (a b : List Val)
    (ha : hasFlag sch.type a fc.typeFullyDefined = false) :
    mergeWith sch fc a b = if hasFlag sch.type a fc.typeGlobal then orFlag sch.type b fc.typeGlobal else b :=
  mergeWith_forward_left sch fc a b ha

/-- **Load order does not matter for a definition and a forward reference**: whichever of the two
libraries is loaded first, the merged type is the same. -/
theorem c13_merge_commutes (sch : Schema) (fc : FlagCfg) (a b : List Val)
    (ha : hasFlag sch.type a fc.typeFullyDefined = true) (hb : hasFlag sch.type b fc.typeFullyDefined = false) :
    mergeWith sch fc a b = mergeWith sch fc b a := by
  rw [c13_fully_defined_wins sch fc a b ha hb, c13_defined_replaces_forward sch fc b a hb]

/-- the flag values read from the current headers satisfy what the order-independence proof
needs: `F_global` is a single bit and differs from `F_fully_defined` -/
theorem c13_flag_facts : MergeCtx schema flagCfg :=
  have h : flagCfg.typeGlobal = 2 ^ 0 ∧ flagCfg.typeGlobal &&& flagCfg.typeFullyDefined = 0 := by decide +kernel
  ⟨⟨0, h.1⟩, h.2⟩

/-- **Any load order, any number of libraries.** One library defines a type fully (`d`), any
number of others only refer to it (`fs`): in whatever order their records are merged the
result is the same record — `d`, global iff one of the contributions was global. -/
theorem c13_merge_order_independent (d : List Val) (fs l1 l2 : List (List Val))
    (h1 : l1.Perm (d :: fs)) (h2 : l2.Perm (d :: fs))
    (hd : hasFlag schema.type d flagCfg.typeFullyDefined = true) (hdf : HasFlags schema.type d)
    (hfs : ∀ f ∈ fs, hasFlag schema.type f flagCfg.typeFullyDefined = false ∧ HasFlags schema.type f) :
    mergeAll schema flagCfg l1 = mergeAll schema flagCfg l2 ∧
    mergeAll schema flagCfg l1 =
      some (canon schema flagCfg d ((d :: fs).any (fun f => hasFlag schema.type f flagCfg.typeGlobal))) := by
  have e1 := mergeAll_perm schema flagCfg c13_flag_facts d fs l1 h1 hd hdf hfs
  have e2 := mergeAll_perm schema flagCfg c13_flag_facts d fs l2 h2 hd hdf hfs
  exact ⟨e1.trans e2.symm, e1⟩

/-! non-vacuity: a definer and a global forward reference, merged in both orders -/
def sampleDef : List Val := setVal schema.type (defaultRec schema.type) "_flags" (.a (.int 8192))
def sampleFwd : List Val := setVal schema.type (defaultRec schema.type) "_flags" (.a (.int 1))
example : hasFlag schema.type sampleDef flagCfg.typeFullyDefined = true ∧
    hasFlag schema.type sampleFwd flagCfg.typeFullyDefined = false ∧
    hasFlag schema.type sampleFwd flagCfg.typeGlobal = true ∧
    mergeAll schema flagCfg [sampleFwd, sampleDef] = mergeAll schema flagCfg [sampleDef, sampleFwd] ∧
    mergeAll schema flagCfg [sampleFwd, sampleDef] = some (orFlag schema.type sampleDef 1) := by
  rw [sampleDef, sampleFwd, schema_eq]
  decide +kernel
example : HasFlags schema.type sampleDef ∧ HasFlags schema.type sampleFwd := by
  have h : findVal schema.type sampleDef "_flags" = some (.a (.int 8192)) ∧
      findVal schema.type sampleFwd "_flags" = some (.a (.int 1)) := by
    rw [sampleDef, sampleFwd, schema_eq]
    decide +kernel
  exact ⟨⟨8192, h.1, by decide⟩, ⟨1, h.2, by decide⟩⟩

/-- **Compiled-in modules get their own contiguous range**: a module with `n > 0`
indices receives `[next, next+n)` and the next free index moves up by `n`. -/
theorem c13_module_range (s : St) (d : ModDef) (h : d.next - d.first > 0) :
    (s.rmAssign d).2.first = s.db.nextIndex ∧
    (s.rmAssign d).2.next = s.db.nextIndex + (d.next - d.first) ∧
    (s.rmAssign d).1.db.nextIndex = s.db.nextIndex + (d.next - d.first) := by
  unfold St.rmAssign
  simp only [h, if_true]
  exact ⟨trivial, trivial, trivial⟩

/-- **A database file gets its own contiguous range**: read into a temporary
database and re-numbered from the current next index, its entries occupy exactly
`[next, next + size)`, wrappers first. -/
theorem c13_file_range (sch : Schema) (rc : RemapCfg) (temp : Db) (next : Int) :
    (temp.remapIndices sch rc next).1.wrappers.map (·.1) = consec next temp.wrappers.length ∧
    (temp.remapIndices sch rc next).1.nextIndex = next + temp.wrappers.length + temp.functions.length +
      temp.types.length + temp.manifests.length + temp.elements.length + temp.makeSeqs.length :=
  ⟨remapIndices_wrappers sch rc temp next, (remapIndices_ranges sch rc temp next).2.2⟩

/-- **The next free index never moves back**, whatever is requested, looked up or loaded — a file
loaded through a module definition with a reserved range leaves it alone, a plain file moves it
past its own entries, `merge_from` does not touch it.  (Hence no range is ever handed out twice.) -/
theorem c13_next_index_monotone (c : Cfg) (s : St) (op : QOp) :
    s.db.nextIndex ≤ (qstep c s op).db.nextIndex := by
  rcases qstep_layout c s op with ⟨_, hn⟩ | ⟨_, hn, _⟩ <;> exact hn

/-- **Reserved ranges are respected in every reachable state**: the ranges of the registered
modules are in registration order, pairwise disjoint, and all below the next free index — which
is where the next plain file (`c13_file_range`) or the next module (`c13_module_range`) is put. -/
theorem c13_ranges_disjoint (c : Cfg) (ops : List QOp) :
    let s := ops.foldl (qstep c) {}
    (∀ i j, i < j → j < s.modules.length → mnext s.modules i ≤ mfirst s.modules j) ∧
    (∀ i, i < s.modules.length → mfirst s.modules i ≤ mnext s.modules i ∧ mnext s.modules i ≤ s.db.nextIndex) := by
  intro s
  have h := modInv_reachable c ops
  exact ⟨h.ok.ordered, fun i hi => ⟨h.ok.wf i hi, h.below i hi⟩⟩

/-- **Cache coherence for every history** of requests, lookups and other queries. -/
theorem c13_cache_coherent (c : Cfg) (ops : List QOp) : CacheInv c (ops.foldl (qstep c) {}) :=
  cacheInv_reachable c ops

/-- **Lookups reflect all loaded files**, including files requested after a lookup
was answered: in every reachable state a lookup first loads every pending file and
then answers from the current maps. -/
theorem c13_lookup_reflects_all_loaded (c : Cfg) (ops : List QOp) (k : LookupKind) (name : Bytes) :
    let s := ops.foldl (qstep c) {}
    (s.lookup c k name).1.requests = [] ∧
    (s.lookup c k name).2 = (SMap.find ((s.checkLatest c).freshMap c k) name).getD 0 :=
  ⟨lookup_requests c _ k name, lookup_answer c _ k name (c13_cache_coherent c ops)⟩

end IgVerif.C13
