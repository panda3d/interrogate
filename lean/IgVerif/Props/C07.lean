import IgVerif.Lemmas.Expr
import IgVerif.Gen.C07Tables
import IgVerif.Lemmas.Literal
import IgVerif.Lemmas.EnumVal
import IgVerif.Lemmas.CharLit
/-!
# C07 — recorded constants equal the values the C++ compiler computes
-/
namespace IgVerif.C07
open IgVerif.Ex

/-- **Evaluator = C++ within `int`.** For every integer constant expression to
which C++ assigns a value with all operands and results inside `int` (arithmetic,
bitwise, shift, comparison, logical with short-circuit, conditional, casts,
comma), interrogate's evaluator returns exactly that value. -/
theorem c07_eval (e : Expr) (v : Int) (h : cxxEval e = some v) : evaluate e = .int v :=
  evaluate_eq_cxxEval e v h

/-- **Never a wrong number**: when C++ assigns a value, interrogate's answer is
that value or nothing — it cannot be a different integer. -/
theorem c07_never_wrong (e : Expr) (v w : Int) (hc : cxxEval e = some v) (hi : evaluate e = .int w) : w = v := by
  rw [c07_eval e v hc] at hi
  injection hi with h; exact h.symm

/-- an identifier interrogate cannot evaluate makes the whole expression
unevaluated — except where C++ itself would not look at it (`1 || x`, `0 && x`,
the untaken branch of `?:`) -/
theorem c07_unknown_is_unevaluated : evaluate .unknown = .error ∧
    evaluate (.bin .add (.int 1) .unknown) = .error ∧ evaluate (.un .minus .unknown) = .error ∧
    evaluate (.cast .int .unknown) = .error := by decide

/-- the values the C++ side is defined on are within `int` -/
theorem c07_spec_in_range (e : Expr) (v : Int) (h : cxxEval e = some v) : inInt v = true :=
  cxxEval_inInt e v h

/-! ## facts re-read from the source on every run -/

theorem c07_extraction_ok : Gen.c07ExtractionFailed = false := rfl

/-- operator precedence and associativity declared to bison are those of C++
(lowest first: ?: right; || ; && ; | ; ^ ; & ; == != ; <= >= < > ; <=> ; << >> ; + - ; * / %) -/
theorem c07_precedence : Gen.precTable =
    [("right", ["'?'"]), ("left", ["OROR"]), ("left", ["ANDAND"]), ("left", ["'|'"]), ("left", ["'^'"]), ("left", ["'&'"]),
     ("left", ["EQCOMPARE", "NECOMPARE"]), ("left", ["LECOMPARE", "GECOMPARE", "'<'", "'>'"]), ("left", ["SPACESHIP"]),
     ("left", ["LSHIFT", "RSHIFT"]), ("left", ["'+'", "'-'"]), ("left", ["'*'", "'/'", "'%'"])] := rfl

def binOps : List String := ["'*'", "'/'", "'%'", "'+'", "'-'", "'|'", "'^'", "'&'", "OROR", "ANDAND", "EQCOMPARE", "NECOMPARE",
  "LECOMPARE", "GECOMPARE", "SPACESHIP", "'<'", "'>'", "LSHIFT", "RSHIFT", "'?'"]

/-- in each of the three copies of the expression grammar every operator token
builds the CPPExpression of that same operator, and every operator has a production -/
def prodsOk : Bool :=
  ["const_expr", "no_angle_bracket_const_expr", "formal_const_expr"].all fun nt =>
    binOps.all fun op =>
      -- the no-angle-bracket copy deliberately lacks `<` and `>` (it parses template arguments)
      (nt == "no_angle_bracket_const_expr" && (op == "'<'" || op == "'>'")) ||
      Gen.prodTable.any fun p => p.1 == nt && p.2.2.1 == op && p.2.2.2.2 == op
def prodsConsistent : Bool :=
  Gen.prodTable.all fun p =>
    ["unary'!'", "unary'~'", "unary'-'", "unary'+'", "unary'*'", "unary'&'"].contains p.2.2.1 || p.2.2.1 == p.2.2.2.2

theorem c07_productions : prodsOk = true ∧ prodsConsistent = true := by decide +kernel

def unaryOk : Bool :=
  ["const_expr", "no_angle_bracket_const_expr", "formal_const_expr"].all fun nt =>
    [("unary'!'", "UNARY_NOT"), ("unary'~'", "UNARY_NEGATE"), ("unary'-'", "UNARY_MINUS"), ("unary'+'", "UNARY_PLUS")].all fun u =>
      Gen.prodTable.any fun p => p.1 == nt && p.2.2.1 == u.1 && p.2.2.2.2 == u.2

theorem c07_unary_productions : unaryOk = true := by decide +kernel

/-- the integer branch of every case of the operator switch in `evaluate()` is the
code the model `binInt` / `evaluate` was written from:
(case label, FNV-1a-64 of the integer-branch code, the code as reviewed) -/
def expectedEval : List (String × Nat × String) := [
  ("UNARY_NOT", 11252535431284683672, "return Result(!r1.as_boolean());"),
  ("UNARY_NEGATE", 17909733182605280397, "return Result(~r1.as_integer());"),
  ("UNARY_MINUS", 12084813241707153501, "return (r1._type == RT_real) ? Result(-r1.as_real()) : Result(-r1.as_integer());"),
  ("UNARY_PLUS", 9656397246608576829, "return r1;"),
  ("'*'", 13115472184048524793, "return Result(r1.as_integer() * r2.as_integer());"),
  ("'/'", 10750980013895829603, "if (r2.as_integer() == 0 || (r1.as_integer() == INT_MIN && r2.as_integer() == -1)) { return Result(); } return Result(r1.as_integer() / r2.as_integer());"),
  ("'%'", 3571153756339543821, "if (r2.as_integer() == 0 || (r1.as_integer() == INT_MIN && r2.as_integer() == -1)) { return Result(); } return Result(r1.as_integer() % r2.as_integer());"),
  ("'+'", 10346605990935539566, "return Result(r1.as_integer() + r2.as_integer());"),
  ("'-'", 13968582568693601192, "return Result(r1.as_integer() - r2.as_integer());"),
  ("'|'", 2948373945770552971, "return Result(r1.as_integer() | r2.as_integer());"),
  ("'^'", 15607128127634404541, "return Result(r1.as_integer() ^ r2.as_integer());"),
  ("'&'", 8098895609521250837, "return Result(r1.as_integer() & r2.as_integer());"),
  ("OROR", 11039011874573077196, "if (r1.as_boolean()) { return Result(1); } else if (r2._type == RT_error) { return r2; } else { return Result((int)r2.as_boolean()); }"),
  ("ANDAND", 2052295261645961952, "if (!r1.as_boolean()) { return Result(0); } else if (r2._type == RT_error) { return r2; } else { return Result((int)r2.as_boolean()); }"),
  ("EQCOMPARE", 6720558649332718439, "return Result(r1.as_integer() == r2.as_integer());"),
  ("NECOMPARE", 3677288408307288779, "return Result(r1.as_integer() != r2.as_integer());"),
  ("LECOMPARE", 4217439656600881022, "return Result(r1.as_integer() <= r2.as_integer());"),
  ("GECOMPARE", 2835447788020915772, "return Result(r1.as_integer() >= r2.as_integer());"),
  ("'<'", 16744441810732581067, "return Result(r1.as_integer() < r2.as_integer());"),
  ("'>'", 6084875908436553629, "return Result(r1.as_integer() > r2.as_integer());"),
  ("LSHIFT", 13742732301376669257, "return Result(r1.as_integer() << r2.as_integer());"),
  ("RSHIFT", 2763406519713796529, "return Result(r1.as_integer() >> r2.as_integer());"),
  ("'?'", 14672500576252486589, "return r1.as_integer() ? _u._op._op2->evaluate() : _u._op._op3->evaluate();"),
  ("','", 9659352733864640322, "return r2;")]

def evalMirror : Bool :=
  expectedEval.all fun p => (Gen.evalTable.find? fun q => q.1 == p.1).map (·.2.2) == some p.2.1

theorem c07_eval_mirror : evalMirror = true := by decide +kernel

example : cxxEval (.bin .add (.bin .mul (.int 6) (.int 7)) (.un .minus (.int 2))) = some 40 := by decide +kernel
example : cxxEval (.bin .lor (.int 5) .unknown) = some 1 := by decide +kernel
example : cxxEval (.bin .bxor (.int 5) (.int 3)) = some 6 := by decide +kernel
example : cxxEval (.cast .short (.int 70000)) = some 4464 := by decide +kernel
example : cxxEval (.bin .div (.int 1) (.int 0)) = none ∧ evaluate (.bin .div (.int 1) (.int 0)) = .error := by decide +kernel
example : cxxEval (.bin .add (.int 2147483647) (.int 1)) = none := by decide +kernel

open IgVerif.Lit in
/-- **Literal lexing.** A decimal, hexadecimal or binary literal — digits of the base with C++14
digit separators anywhere between them, followed by something that neither continues the digit
sequence nor is a separator — is recorded with the positional value of its digits, and exactly the
literal is consumed. -/
theorem c07_literal (d : Nat) (ds : List Nat) (bs : List Bool) (rest : List Nat) :
    ((∀ x ∈ d :: ds, isDec x = true) → d ≠ 48 → Stop isDec rest →
      getNumber (withSeps (d :: ds) bs ++ rest) = some (strtol 10 (d :: ds), .dec, rest)) ∧
    (∀ x, (x = 120 ∨ x = 88) → (∀ y ∈ d :: ds, isHex y = true) → Stop isHex rest →
      getNumber (48 :: x :: (withSeps (d :: ds) bs ++ rest)) = some (strtol 16 (d :: ds), .hex, rest)) ∧
    (∀ x, (x = 98 ∨ x = 66) → (∀ y ∈ d :: ds, isBin y = true) → Stop isBin rest →
      getNumber (48 :: x :: (withSeps (d :: ds) bs ++ rest)) = some (strtol 2 (d :: ds), .bin, rest)) := by
  refine ⟨fun hd h0 hs => ?_, fun x hx hd hs => ?_, fun x hx hd hs => ?_⟩
  · have hhead : (withSeps (d :: ds) bs ++ rest).head? = some d := by
      obtain ⟨tl, e⟩ := withSeps_cons_head d ds bs
      rw [e]; rfl
    rw [getNumber_nonzero _ d hhead (hd d (List.mem_cons_self ..)) h0,
      takeDigits_withSeps isDec (d :: ds) bs rest _ hd isHex_of_isDec hs (Nat.lt_succ_self _)]
  · rw [getNumber_0x x hx, takeDigits_withSeps isHex (d :: ds) bs rest _ hd id hs (Nat.lt_add_of_pos_right Nat.zero_lt_two)]
  · rw [getNumber_0b x hx, takeDigits_withSeps isBin (d :: ds) bs rest _ hd isHex_of_isBin hs (Nat.lt_add_of_pos_right Nat.zero_lt_two)]

open IgVerif.Lit in
/-- the positional value: appending a digit multiplies by the base and adds the digit -/
theorem c07_strtol_snoc (base : Nat) (ds : List Nat) (d : Nat) : strtol base (ds ++ [d]) = strtol base ds * base + digitVal d := by
  simp [strtol, List.foldl_append]

-- 0b11 is 3 (it used to be recorded as 7), 0xFF'FF is 65535, 1'000 is 1000, 017 is 15
example : Lit.getNumber [48, 98, 49, 49, 59] = some (3, .bin, [59]) := by decide +kernel
example : Lit.getNumber [48, 120, 70, 70, 39, 70, 70, 44] = some (65535, .hex, [44]) := by decide +kernel
example : Lit.getNumber [49, 39, 48, 48, 48, 32] = some (1000, .dec, [32]) := by decide +kernel
example : Lit.getNumber [48, 49, 55, 59] = some (15, .oct, [59]) := by decide +kernel

open IgVerif.EnumVal in
/-- **Implicit enumerator values** ([dcl.enum]/2). Whatever mixture of written and omitted
initialisers an enum has — literals, names of other constants, sums — the expressions
`add_element` builds for its enumerators evaluate to: the written value where one is
written, 0 for a first enumerator without one, the previous value plus one otherwise.
(Values are mathematical integers here: the code adds 1 in 64-bit arithmetic.) -/
theorem c07_enum_increment (ρ : Nat → Int) (gs : List (Option EnumVal.Ex)) :
    (elements none gs).map (EnumVal.Ex.eval ρ) = spec ρ none gs :=
  elements_spec ρ none gs

open IgVerif.EnumVal in
-- enum { a, b = K + 2, c, d, e = 7, f }  with K = 10
example : (elements none [none, some (.add (.sym 0) (.lit 2)), none, none, some (.lit 7), none]).map (EnumVal.Ex.eval (fun _ => 10)) =
    [0, 12, 13, 14, 7, 8] := by decide +kernel

open IgVerif.Chr IgVerif.Lit in
/-- **An ordinary character** denotes its code (`char` is signed: codes above 127 are negative,
as for the C++ compiler on this platform). -/
theorem c07_char_plain (c : Nat) (rest : List Nat) (h1 : c ≠ 10) (h2 : c ≠ 39) (h3 : c ≠ 92) :
    charValue (c :: rest) = toSigned c := by
  simp [charValue, scanQuoted, h1, h2, h3]

open IgVerif.Chr in
/-- **Simple escapes**: the whole table of [lex.ccon] (`\a \b \f \n \r \t \v \\ \' \" \?`) and GCC's `\e`. -/
theorem c07_char_simple_escapes :
    [(97, 7), (98, 8), (102, 12), (110, 10), (114, 13), (116, 9), (118, 11), (92, 92), (39, 39), (34, 34), (63, 63), (101, 27)].all
      (fun p => charValue [92, p.1, 39] == (p.2 : Int)) = true := by decide +kernel

open IgVerif.Chr in
/-- **Octal escapes** of one, two or three digits (the literal's closing quote, or any other
non-octal character, ends them): the value is the number the digits spell, as a `char`. -/
theorem c07_char_octal (a b c x : Nat) (rest : List Nat) (ha : isOct a = true) (hb : isOct b = true) (hc : isOct c = true)
    (hx : isOct x = false) :
    charValue (92 :: a :: b :: c :: rest) = toSigned ((((a - 48) * 8 + (b - 48)) * 8 + (c - 48)) % 256) ∧
    charValue (92 :: a :: b :: x :: rest) = toSigned (((a - 48) * 8 + (b - 48)) % 256) ∧
    charValue (92 :: a :: x :: rest) = toSigned ((a - 48) % 256) := by
  obtain ⟨h3, h2, h1⟩ := scanEscape_oct a b c x rest ha hb hc hx
  simp only [charValue_escape, h3, h2, h1, and_self]

open IgVerif.Chr IgVerif.Lit in
/-- **Hexadecimal escapes** read every hex digit that follows, as C++ does; the value is the
number they spell, as a `char`. -/
theorem c07_char_hex (h1 : Nat) (ds : List Nat) (x : Nat) (rest : List Nat) (e1 : isHex h1 = true)
    (eds : ∀ d ∈ ds, isHex d = true) (ex : isHex x = false) :
    charValue (92 :: 120 :: h1 :: (ds ++ x :: rest)) = toSigned (strtol 16 (h1 :: ds) % 256) := by
  rw [charValue_escape, scanEscape_hex h1 ds x rest e1 eds ex]

-- 'A' = 65, '\n' = 10, '\101' = 65, '\x41' = 65, '\xff' = -1, '\0' = 0, '\377' = -1
example : [Chr.charValue [65, 39], Chr.charValue [92, 110, 39], Chr.charValue [92, 49, 48, 49, 39], Chr.charValue [92, 120, 52, 49, 39],
    Chr.charValue [92, 120, 102, 102, 39], Chr.charValue [92, 48, 39], Chr.charValue [92, 51, 55, 55, 39],
    Chr.charValue [92, 120, 48, 52, 49, 39]] = [65, 10, 65, 65, -1, 0, -1, 65] := by decide +kernel

end IgVerif.C07
