import IgVerif.Model.Scan
/-!
# C15 — the hand-written scanners are total
-/
namespace IgVerif.C15
open IgVerif.Scan

theorem compareTail_ok (str delim : List Nat) (h : delim.length ≤ str.length) : compareTail str delim ≠ .throws := by
  simp [compareTail, h]

theorem rawLoop_safe (delim : List Nat) : ∀ (cs str : List Nat), rawLoop delim cs str ≠ .throws := by
  intro cs str
  fun_induction rawLoop delim cs str with
  | case1 => simp
  | case2 c cs str _ hlen hcmp => exact absurd hcmp (compareTail_ok str delim hlen)
  | case3 => simp
  | case4 _ _ _ _ _ _ ih => exact ih
  | case5 _ _ _ _ _ ih => exact ih
  | case6 _ _ _ _ ih => exact ih

/-- **`scan_raw` never indexes out of range**: for every byte string following `R"` the scanner
returns a string (closed or not); `std::string::compare` is never called with a start position
beyond the end. -/
theorem c15_scan_raw_total (input : List Nat) : scanRaw input ≠ .throws := by
  unfold scanRaw
  exact rawLoop_safe _ _ _

/-- what went wrong before the fix: `R"(")"` — the first quote arrives while the string is shorter
than the delimiter -/
theorem c15_scan_raw_old_counterexample : rawLoopOld [41] [34, 41, 34] [] = .throws := by decide +kernel

/-- a well-formed literal `R"x(ab)x"` yields its body and reports the closing quote -/
example : scanRaw [120, 40, 97, 98, 41, 120, 34, 59] = .ok ([97, 98], true) := by decide +kernel
example : scanRaw [40, 34, 41, 34] = .ok ([34], true) := by decide +kernel      -- R"(")"
example : scanRaw [40, 97] = .ok ([97], false) := by decide +kernel              -- unclosed

/-- **Every expansion step shrinks the set of macros that may still be expanded** — the measure
that makes `expandObj` (and `expand_manifests`, as long as the ignore set is handed down) terminate
on every macro table, cyclic ones included.  (`expandObj` is defined by well-founded recursion on
this measure; Lean would not accept the definition otherwise.) -/
theorem c15_expand_measure (table : Table) (ignores : List String) (n : String) (body : List Tok)
    (h : lookup table n = some body) (hi : ignores.contains n = false) :
    live table (n :: ignores) < live table ignores :=
  live_lt table ignores n body h hi

/-- cyclic object-like macros: `#define A B`, `#define B A` — `A` expands to `A` and stops -/
example : expandObj [("A", [.ident "B"]), ("B", [.ident "A"])] [] [.ident "A", .other ";"] = [.ident "A", .other ";"] := by
  simp [expandObj, lookup]
example : expandObj [("R", [.ident "G"]), ("G", [.ident "B"]), ("B", [.ident "R", .other "+", .ident "G"])] [] [.ident "R"]
    = [.ident "R", .other "+", .ident "G"] := by
  simp [expandObj, lookup]

end IgVerif.C15
