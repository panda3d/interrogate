import IgVerif.Lemmas.Determinism
import IgVerif.Gen.C14Facts
/-!
# C14 — output is a pure function of the inputs
-/
namespace IgVerif.C14
open IgVerif.Det

/-- the facts read from the current source are the ones the model was written for -/
theorem c14_extraction_ok : Gen.c14ExtractionFailed = false ∧ Gen.c14TieBreakBySignature = true ∧
    Gen.c14CompareSteps = ["const", "arity", "rank", "sig"] ∧ Gen.c14EpochShape = "nonempty->atoi|else->time" :=
  ⟨rfl, rfl, rfl, rfl⟩

/-- **The order of the overloads in the generated code does not depend on the order in which the
pointer-keyed set hands them out**: for every two orders of the same remaps (any permutation, i.e.
any heap layout) sorting with `RemapCompareLess` gives the same sequence. -/
theorem c14_order_independent (xs ys : List Remap) (h : xs.Perm ys) :
    emitOrder remapLess xs = emitOrder remapLess ys :=
  emitOrder_perm key (fun a _ b _ => key_injective a b) h

/-- `RemapCompareLess` is a strict weak ordering (what `std::sort` requires): irreflexive,
asymmetric, transitive, and incomparability is equality of remaps. -/
theorem c14_strict_weak (a b c : Remap) :
    remapLess a a = false ∧ (remapLess a b = true → remapLess b a = false) ∧
    (remapLess a b = true → remapLess b c = true → remapLess a c = true) ∧
    (remapLess a b = false → remapLess b a = false → a = b) := by
  simp only [remapLess, lexLt_iff, lexLt_eq_false_iff]
  exact ⟨List.le_refl _, List.le_of_lt, List.lt_trans, fun h1 h2 => key_injective a b (List.le_antisymm h2 h1)⟩

/-- without the tie-break two overloads of equal rank come out in the order they went in:
`f(A *)`, `f(B *)` — the defect that was repaired (`keyOld` is not injective: `emitOrder_perm` does
not apply) -/
theorem c14_old_order_dependent :
    let a : Remap := ⟨false, [3], [65]⟩
    let b : Remap := ⟨false, [3], [66]⟩
    emitOrder remapLessOld [a, b] ≠ emitOrder remapLessOld [b, a] := by
  intro a b
  -- neither is less than the other, so both orders are sorted already and the sort leaves them as they are
  have hab : remapLessOld a b = false ∧ remapLessOld b a = false := by decide
  rw [emitOrder, emitOrder, List.mergeSort_of_pairwise (by simp [hab]), List.mergeSort_of_pairwise (by simp [hab])]
  decide

/-- **With `SOURCE_DATE_EPOCH` set (non-empty) the file identifier does not depend on the clock.** -/
theorem c14_id_epoch (c : Nat) (cs : List Nat) (now now' : Int) : fileId (some (c :: cs)) now = fileId (some (c :: cs)) now' := rfl

/-- unset or empty: the clock -/
theorem c14_id_clock (now : Int) : fileId none now = now ∧ fileId (some []) now = now := ⟨rfl, rfl⟩

/-- `SOURCE_DATE_EPOCH=0` means identifier 0, not "unset" -/
theorem c14_id_zero (now : Int) : fileId (some [48]) now = 0 := by
  show atoi [48] = 0
  decide

example : atoi [32, 49, 50, 120] = 12 ∧ atoi [45, 53] = -5 ∧ atoi [97] = 0 := by decide +kernel
end IgVerif.C14
