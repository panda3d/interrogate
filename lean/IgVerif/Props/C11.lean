import IgVerif.Lemmas.Remap
import IgVerif.Lemmas.ClosedRemap
import IgVerif.Lemmas.Mirror
/-!
# C11 — the database is referentially closed; wrapper indices are 1..n
-/
namespace IgVerif.C11

/-- every member whose C++ type is an index type (TypeIndex, FunctionIndex, … or a
vector / sub-record field of one) is passed through `remap.map_from()` by its
class's `remap_indices()` — re-decided on the current headers and bodies -/
def fieldCoverage : Bool :=
  Gen.indexMembers.all fun p => p.2.all fun m => (assocGet Gen.remapMembers p.1).contains m.1

theorem c11_field_coverage : fieldCoverage = true := by decide +kernel

/-- coverage decided on whole member tables, as `fieldCoverage` does, gives `Covers` for every kind -/
theorem covers_of_tables (ic : IndexCfg) (rc : RemapCfg)
    (h : (ic.all fun p => p.2.all fun m => (assocGet rc p.1).contains m.1) = true) (k : Kind) :
    Covers (ic.of k) (rc.of k) := by
  unfold IndexCfg.of
  split
  · next p hp =>
    have := List.all_eq_true.mp h p (List.mem_of_find?_eq_some hp)
    have hk : p.1 = k.name := by simpa using List.find?_some hp
    rw [hk] at this
    exact covers_of_all _ _ this
  · exact fun n t ht => nomatch ht

/-- the translator found index members for all six kinds -/
theorem c11_index_members_found : Gen.indexMembers.map (fun p => (p.1, p.2.length != 0)) =
    [("function", true), ("wrapper", true), ("type", true), ("manifest", true), ("element", true), ("makeSeq", true)] := by
  decide +kernel

/-- **Wrappers first.** After `remap_indices(first)` the wrapper indices are exactly
`first, first+1, …, first+n-1` (the builder calls it with `first = 1`). -/
theorem c11_wrappers_first (sch : Schema) (rc : RemapCfg) (db : Db) (first : Int) :
    (db.remapIndices sch rc first).1.wrappers.map (·.1) = consec first db.wrappers.length ∧
    consecutiveFrom first ((db.remapIndices sch rc first).1.wrappers.map (·.1)) = true := by
  have h := remapIndices_wrappers sch rc db first
  exact ⟨h, by rw [h]; exact consecutiveFrom_consec _ _⟩

/-- the other kinds follow consecutively (functions, types, manifests, elements,
sequences) and the returned next index is `first` plus the number of entries -/
theorem c11_ranges (sch : Schema) (rc : RemapCfg) (db : Db) (first : Int) :
    let r := (db.remapIndices sch rc first).1
    r.functions.map (·.1) = consec (first + db.wrappers.length) db.functions.length ∧
    r.types.map (·.1) = consec (first + db.wrappers.length + db.functions.length) db.types.length ∧
    r.nextIndex = first + db.wrappers.length + db.functions.length + db.types.length +
      db.manifests.length + db.elements.length + db.makeSeqs.length :=
  remapIndices_ranges sch rc db first

/-- records keep their content order: the k-th wrapper stays the k-th wrapper -/
theorem c11_order_preserved (sch : Schema) (rc : RemapCfg) (db : Db) (first : Int) :
    (db.remapIndices sch rc first).1.wrappers.length = db.wrappers.length := by
  have h := congrArg List.length (remapIndices_wrappers sch rc db first)
  rwa [List.length_map, length_consec] at h

/-- per kind, every index-typed member the translator found in the headers is among the members
that kind's `remap_indices()` passes through the remapper (both lists regenerated on every run) -/
theorem c11_covers (k : Kind) : Covers (IndexCfg.of Gen.indexMembers k) (RemapCfg.of Gen.remapMembers k) :=
  covers_of_tables _ _ c11_field_coverage k

/-- **Closure is preserved.** A referentially closed database — every stored index is 0 ("none")
or names an existing entry of the expected kind, and the global/all enumerations list existing
entries — is still closed after `remap_indices(first)`, for every `first`: the builder's final
renumbering and the renumbering on load cannot create a dangling reference.  Hypotheses: no index
is used by entries of two kinds and 0 is not an index (true of every database `remap_indices`
itself produced with `first ≥ 1`: `c11_ranges`). -/
theorem c11_closed_preserved (db : Db) (first : Int)
    (hd : db.kindsDisjointB = true) (h0 : ∀ k, (0 : Int) ∉ (db.map k).map (·.1))
    (hcl : db.closedB schema Gen.indexMembers = true) :
    (db.remapIndices schema Gen.remapMembers first).1.closedB schema Gen.indexMembers = true :=
  closed_remap schema Gen.indexMembers Gen.remapMembers db first c11_covers hd h0 hcl

/-- the hypotheses are satisfiable by a database with a live cross reference (wrapper 5 → function 7),
and the conclusion is not trivial: the reference is carried to the function's new index -/
def exDb : Db :=
  { wrappers := [(5, setVal schema.wrapper (defaultRec schema.wrapper) "_function" (.a (.int 7)))],
    functions := [(7, defaultRec schema.function)], allFunctions := [7] }

example : exDb.kindsDisjointB = true ∧ exDb.closedB schema Gen.indexMembers = true ∧
    (exDb.remapIndices schema Gen.remapMembers 1).1.allFunctions = [2] ∧
    ((exDb.remapIndices schema Gen.remapMembers 1).1.wrappers.map
      fun p => (p.1, getInt schema.wrapper p.2 "_function")) = [(1, 2)] := by
  unfold exDb; rw [schema_eq]; decide +kernel

example : consecutiveFrom 1 [1, 2, 3] = true ∧ consecutiveFrom 1 [1, 3] = false := by decide +kernel

end IgVerif.C11
