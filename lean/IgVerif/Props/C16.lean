import IgVerif.Lemmas.ModuleTerm
/-!
# C16 — module initialisation registers every library once, base classes first
-/
namespace IgVerif.C16
open IgVerif.MO

/-- **Each library at most once** in the emitted order, for every dependency graph. -/
theorem c16_each_once (g : Deps) : (order g).libs.Nodup :=
  (inv_run g (fuelFor g) g [] [] (inv_init g)).elim fun _ h => h.nodup

/-- **Base classes first.** For every dependency graph — acyclic or not — every
dependency `a → b` (a library `a` whose classes derive from / are typedefs of
classes of `b`) that the cycle breaker did not report as broken is respected:
`b` is initialised strictly before `a`. -/
theorem c16_unbroken_respected (g : Deps) (a b : String) (hb : b ∈ g.get a)
    (ha : a ∈ (order g).libs) (hnb : (a, b) ∉ (order g).broken) : Before (order g).libs b a := by
  obtain ⟨d', h⟩ := inv_run g (fuelFor g) g [] [] (inv_init g)
  exact (h.respected a ha b hb).resolve_left hnb

/-- corollary: when nothing had to be broken (in particular for acyclic graphs, where
the search finds no cycle) the order is a topological order of the emitted libraries -/
theorem c16_topological_when_unbroken (g : Deps) (h0 : (order g).broken = []) (a b : String)
    (hb : b ∈ g.get a) (ha : a ∈ (order g).libs) : Before (order g).libs b a :=
  c16_unbroken_respected g a b hb ha (by rw [h0]; simp)

def cyc' : Deps := [("liba", ["libb", "libc"]), ("libb", ["libc"]), ("libc", ["libd"]), ("libd", ["libb"])]

/-- **Without hanging.** For every dependency graph — with any number of cycles, and with
dependencies on libraries that are not keys of the map — the `while` loop of
`write_python_table_native` ends: every round emits a library, erases an edge of a cycle
that the search (with its visited set) finds on its first descent, or inserts a missing
key.  The model's loop carries fuel; this theorem shows the fuel is never exhausted. -/
theorem c16_terminates (g : Deps) (h : g.keys.Nodup) : (order g).finished = true :=
  (run_finishes (fuelFor g) g [] [] h List.nodup_nil nofun (beta_lt_fuelFor g)).1

/-- **Every library is referenced**: each key of the map is emitted (and, by
`c16_each_once`, exactly once). -/
theorem c16_all_emitted (g : Deps) (h : g.keys.Nodup) (k : String) (hk : k ∈ g.keys) : k ∈ (order g).libs :=
  (run_finishes (fuelFor g) g [] [] h List.nodup_nil nofun (beta_lt_fuelFor g)).2 k ((has_iff g k).mpr hk)

/-- **Only genuine cycles are broken.** Every dependency `a → b` the tool reports as broken
is an edge of the dependency graph that lies on a cycle: `a` is reachable again from `b`. -/
theorem c16_broken_on_cycle (g : Deps) (a b : String) (h : (a, b) ∈ (order g).broken) :
    b ∈ g.get a ∧ Reach g b a :=
  run_broken_ok g (fuelFor g) g [] [] (fun _ _ h => h) nofun (a, b) h

/-- consequently an acyclic graph (no library reachable from one of its own dependencies)
is ordered topologically with nothing broken -/
theorem c16_acyclic_unbroken (g : Deps) (hac : ∀ a b, b ∈ g.get a → ¬ Reach g b a) : (order g).broken = [] :=
  List.eq_nil_iff_forall_not_mem.mpr fun p hp =>
    have := c16_broken_on_cycle g p.1 p.2 hp
    hac _ _ this.1 this.2

/-- the hypothesis is satisfiable: a `std::map` has distinct keys -/
example : (Deps.keys cyc').Nodup := by decide +kernel

/-! ## non-vacuity and small-scope facts (these are *tests*, by evaluation) -/

def diamond : Deps := [("liba", ["libb", "libc"]), ("libb", ["libd"]), ("libc", ["libd"]), ("libd", [])]
example : order diamond = { libs := ["libd", "libb", "libc", "liba"], broken := [], finished := true } := by decide +kernel

def cyc : Deps := [("liba", ["libb", "libc"]), ("libb", ["libc"]), ("libc", ["libd"]), ("libd", ["libb"])]
example : (order cyc).finished = true ∧ (order cyc).libs.length = 4 ∧ (order cyc).broken.length = 1 := by decide +kernel

/-- a dependency on a library that is not a key: the key is inserted (by `operator[]`) and emitted -/
example : order [("liba", ["libz"])] = { libs := ["libz", "liba"], broken := [], finished := true } := by decide +kernel

end IgVerif.C16
