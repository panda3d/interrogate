import IgVerif.Model.Macro
import IgVerif.Lemmas.Expand
/-!
# C08 — `#` produces a string literal that spells its argument; a literal in a macro body is
opaque; a body of one or two tokens (a parameter, `#p`, `a ## b`, `__VA_ARGS__`) expands as in C
-/
namespace IgVerif.C08
open IgVerif.Mac

theorem unescape_cons_plain (c : Nat) (rest : List Nat) (h : c ≠ 92) : unescape (c :: rest) = c :: unescape rest := by
  cases rest with
  | nil => simp [unescape]
  | cons d ds => simp [unescape, h]

theorem unescape_esc (c : Nat) (rest : List Nat) : unescape (92 :: c :: rest) = c :: unescape rest := by
  simp [unescape]

/-- every piece the loop appends reads back as the character it was produced for -/
theorem step_reads_back (st : SState) (c : Nat) (rest : List Nat)
    (h : (st.escaped || st.quoted || c != 92) = true) :
    unescape ((step st c).2 ++ rest) = c :: unescape rest := by
  -- the cases follow the branches of `step`: `\` inside and outside a literal, `'`, `"`, any other
  -- character, and last the character after a backslash
  fun_cases step st c
  case case1 => exact unescape_esc c rest
  case case2 => simp_all
  case case3 h92 _ => exact unescape_cons_plain c rest (by simpa using h92)
  case case4 => exact unescape_esc c rest
  case case5 h92 _ _ => exact unescape_cons_plain c rest (by simpa using h92)
  case case6 =>
    show unescape ((if _ then _ else _) ++ rest) = _
    split
    · exact unescape_esc c rest
    · next hc => exact unescape_cons_plain c rest (by intro e; simp [e] at hc)

theorem go_reads_back : ∀ (src : List Nat) (st : SState) (tail : List Nat), wellLexed st src = true →
    unescape (go st src ++ tail) = src ++ unescape tail
  | [], _, tail, _ => by simp [go]
  | c :: cs, st, tail, h => by
    simp only [wellLexed, Bool.and_eq_true] at h
    simp only [go, List.append_assoc]
    rw [step_reads_back st c _ h.1, go_reads_back cs _ tail h.2]
    simp

/-- **`#` round trip.** For every argument that is a sequence of well-lexed tokens (no
backslash outside a literal), `stringify` yields `"` + body + `"` where the body, read back
with the escapes `\\` and `\"` undone, is exactly the argument — so an escaped quote inside a
literal never ends the produced literal early. -/
theorem c08_stringify_roundtrip (src : List Nat) (h : wellLexed SState.init src = true) :
    ∃ body, stringify src = 34 :: (body ++ [34]) ∧ unescape body = src := by
  refine ⟨go SState.init src, rfl, ?_⟩
  have := go_reads_back src SState.init [] h
  simpa [unescape] using this

/-- the produced body never contains an unescaped `"`: read back, it has as many quotes as the
argument (corollary of the round trip), and it begins and ends with the delimiters -/
theorem c08_stringify_delimited (src : List Nat) : (stringify src).head? = some 34 ∧ (stringify src).getLast? = some 34 :=
  ⟨rfl, by rw [stringify, ← List.cons_append, List.getLast?_concat]⟩

-- STR("q\"r")  →  "\"q\\\"r\""
example : stringify [34, 113, 92, 34, 114, 34] = [34, 92, 34, 113, 92, 92, 92, 34, 114, 92, 34, 34] := by decide +kernel
-- a '"' character literal does not open a string: 7 '"' "s\n"
example : stringify [39, 34, 39, 32, 34, 115, 92, 110, 34]
    = [34, 39, 92, 34, 39, 32, 92, 34, 115, 92, 92, 110, 92, 34, 34] := by decide +kernel
example : wellLexed SState.init [34, 113, 92, 34, 114, 34] = true := by decide +kernel

open IgVerif.Exp

/-- **A literal in a macro body is opaque.** While the body of a `#define` is cut into nodes,
a string literal — or a character literal, i.e. an apostrophe not preceded by a digit or
letter — is appended to the chunk being collected exactly as written: parameter names, `#`,
`##` and blanks inside it have no effect. -/
theorem c08_literal_opaque (names : List (List Nat)) (variadic : Option Nat) (fuel : Nat) (q : Nat) (body rest : List Nat)
    (prev : Option Nat) (cur : List Nat) (str paste : Bool) (nodes : List Node)
    (hq : q = 34 ∨ (q = 39 ∧ prevAlnum prev = false)) (hb : ∀ c ∈ body, c ≠ q ∧ c ≠ 92) :
    save names variadic (fuel + 1) (q :: (body ++ q :: rest)) prev cur str paste nodes =
      save names variadic fuel rest (some q) (cur ++ q :: (body ++ [q])) str paste nodes :=
  save_literal rest hq hb

/-- consequently a macro whose body is one string literal expands to that literal, whatever
its parameters are called and whatever arguments it is given -/
theorem c08_literal_body (names : List (List Nat)) (variadic : Option Nat) (body : List Nat) (args : List (List Nat))
    (hb : ∀ c ∈ body, c ≠ 34 ∧ c ≠ 92) :
    expandOnce names variadic (34 :: (body ++ [34])) args = 34 :: (body ++ [34]) := by
  rw [expandOnce, saveExpansion, save_literal [] (Or.inl rfl) hb, save_nil]
  exact rExpand_text ..

/-- **Parameter substitution**, any number of parameters: a body that is the name of the `i`-th
parameter (an identifier other than `__VA_ARGS__`) expands to the `i`-th argument; to nothing if
fewer arguments were given -/
theorem c08_param_substitution (names : List (List Nat)) (c : Nat) (rest : List Nat) (i : Nat) (args : List (List Nat))
    (hc : isIdStart c = true) (hr : ∀ x ∈ rest, isIdChar x = true)
    (hva : (c :: rest) ≠ vaArgs) (hi : indexOf names (c :: rest) = some i) :
    expandOnce names none (c :: rest) args = args.getD i [] :=
  expand_param hc hr (by rw [paramOf, if_neg (by simpa using hva), hi])

/-- **`#` on any parameter**: `#define S(…, p_i, …) #p_i` — `S(args)` is the `i`-th argument
stringified (what that literal spells is `c08_stringify_roundtrip`); the empty string literal
if the argument is missing -/
theorem c08_hash_any_param (names : List (List Nat)) (c : Nat) (rest : List Nat) (i : Nat) (args : List (List Nat))
    (hc : isIdStart c = true) (hr : ∀ x ∈ rest, isIdChar x = true)
    (hva : (c :: rest) ≠ vaArgs) (hi : indexOf names (c :: rest) = some i) :
    expandOnce names none (35 :: c :: rest) args = stringify (args.getD i []) :=
  expand_hash_param hc hr (by rw [paramOf, if_neg (by simpa using hva), hi])

/-- `#define ID(x) x`: `ID(a)` is `a` -/
theorem c08_identity_param (arg : List Nat) : expandOnce [[120]] none [120] [arg] = arg :=
  c08_param_substitution [[120]] 120 [] 0 [arg] rfl (by simp) (by rw [vaArgs_eq]; decide) rfl

/-- `#define S(x) #x`: `S(arg)` is `stringify arg` (whose value `c08_stringify_roundtrip` gives) -/
theorem c08_stringify_param (arg : List Nat) :
    expandOnce [[120]] none [35, 120] [arg] = stringify arg :=
  c08_hash_any_param [[120]] 120 [] 0 [arg] rfl (by simp) (by rw [vaArgs_eq]; decide) rfl

/-- **`__VA_ARGS__`**: `#define V(...) __VA_ARGS__` — `V(a, b, …)` is the arguments joined by
`, `, for any number of arguments (none included) -/
theorem c08_va_args_join (args : List (List Nat)) :
    expandOnce [] (some 0) [95, 95, 86, 65, 95, 65, 82, 71, 83, 95, 95] args = joinArgs args :=
  expand_param (i := 0) rfl (by decide) (by rw [paramOf, ← vaArgs_eq]; exact if_pos (by simp))

/-- `#define S(...) #__VA_ARGS__` with at least one argument: the joined arguments, stringified -/
theorem c08_hash_va_args (a : List Nat) (as : List (List Nat)) :
    expandOnce [] (some 0) [35, 95, 95, 86, 65, 95, 65, 82, 71, 83, 95, 95] (a :: as) = stringify (joinArgs (a :: as)) :=
  expand_hash_param (i := 0) rfl (by decide) (by rw [paramOf, ← vaArgs_eq]; exact if_pos (by simp))

-- `#define M(p0, p1) p1` with M(x, yz)
example : Exp.indexOf [[112, 48], [112, 49]] [112, 49] = some 1 ∧
    Exp.expandOnce [[112, 48], [112, 49]] none [112, 49] [[120], [121, 122]] = [121, 122] := by decide +kernel

/-- `#define CAT(a, b) a ## b`: `CAT(x, y)` is `x` and `y` joined without a blank, for all
arguments — an empty one (a placemarker) leaves the other as it is -/
theorem c08_paste_params (x y : List Nat) : expandOnce [[97], [98]] none [97, 32, 35, 35, 32, 98] [x, y] = x ++ y := by
  have hs : saveExpansion [[97], [98]] none [97, 32, 35, 35, 32, 98] = [.param 0 false false false, .param 1 false true true] := by decide +kernel
  rw [expandOnce, hs]
  exact rExpand_paste 0 1 false true [x, y]

-- `#define RED "#FF0000"` and `#define F(x) "x" x` with F(1), as C++ has them
example : Exp.expandOnce [] none [34, 35, 70, 70, 48, 48, 48, 48, 34] [] = [34, 35, 70, 70, 48, 48, 48, 48, 34] := by decide +kernel
example : Exp.expandOnce [[120]] none [34, 120, 34, 32, 120] [[49]] = [34, 120, 34, 32, 49] := by decide +kernel

end IgVerif.C08
