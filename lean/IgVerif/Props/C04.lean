import IgVerif.Model.Export
import IgVerif.Gen.C04Gates
/-!
# C04 — only the published API of the named files is exported
-/
namespace IgVerif.Ex4

theorem passes_iff {gs : List Gate} {cfg : Cfg} {d : Decl} : passes gs cfg d = true ↔ ∀ g ∈ gs, fires cfg d g = false := by
  simp only [passes, List.all_eq_true, Bool.not_eq_true']

theorem not_passes {gs : List Gate} {cfg : Cfg} {d : Decl} (g : Gate) (hg : g ∈ gs) (hf : fires cfg d g = true) :
    passes gs cfg d = false :=
  Bool.eq_false_iff.2 fun h => by simp [passes_iff.1 h g hg] at hf

/-- only the three visibility guards consult the configuration, and they relax as `minVis` grows -/
theorem fires_anti {cfg cfg' : Cfg} (hm : cfg.minVis ≤ cfg'.minVis) (d : Decl) (g : Gate) (h : fires cfg d g = false) :
    fires cfg' d g = false := by
  have hv : decide (d.vis > cfg.minVis) = false → decide (d.vis > cfg'.minVis) = false := by
    simp only [decide_eq_false_iff_not]; omega
  cases g with
  | vis => exact hv h
  | visStruct => simp only [fires, Bool.and_eq_false_iff] at h ⊢; exact h.imp_left hv
  | visUnlessForced => simp only [fires, Bool.and_eq_false_iff] at h ⊢; exact h.imp_right hv
  | _ => exact h

end IgVerif.Ex4

namespace IgVerif.C04
open IgVerif.Ex4

/-- the guard sequences read from the current source are the ones the model interprets
(a removed, added or reordered guard changes the regenerated file and fails here) -/
theorem c04_gates_mirror :
    Gen.c04ExtractionFailed = false ∧
    Gen.c04_scan_function = functionGates.map gateName ∧
    Gen.c04_scan_struct_type = structGates.map gateName ∧
    Gen.c04_scan_enum_type = enumGates.map gateName ∧
    Gen.c04_scan_manifest = manifestGates.map gateName ∧
    Gen.c04_scan_element = elementGates.map gateName ∧
    Gen.c04_define_method = methodGates.map gateName ∧
    Gen.c04_define_struct_type = ["anonymous", "cfile", "notlocal_unless_forced", "unpublished_struct", "involves_protected"] :=
  ⟨rfl, rfl, rfl, rfl, rfl, rfl, rfl, rfl⟩

/-- **Global functions**: exported iff declared in a command-line / working-directory header,
with at least the requested visibility, not static, deleted or a template, and with a signature
free of protected/private types, ignored types and rvalue references. -/
theorem c04_function_iff (cfg : Cfg) (d : Decl) :
    passes functionGates cfg d = true ↔
      (d.scopedDecl = false ∧ d.template = false ∧ d.cFile = false ∧ d.localFile = true ∧ d.vis ≤ cfg.minVis ∧
       d.isStatic = false ∧ d.deleted = false ∧ d.involvesProtected = false ∧ d.ignoreInvolved = false ∧ d.rvalueRef = false) := by
  simp only [passes, functionGates, fires, List.all_cons, List.all_nil, Bool.and_true, Bool.and_eq_true, Bool.not_eq_true',
    Bool.not_eq_false', decide_eq_false_iff_not, Nat.not_lt, Bool.or_eq_false_iff, and_assoc]

/-- **Methods**: as for functions, within an exported class; static methods are exported, a
public destructor and `get_class_type()` count as published. -/
theorem c04_method_iff (cfg : Cfg) (d : Decl) :
    passes methodGates cfg d = true ↔
      (d.template = false ∧ d.deleted = false ∧ ¬ (d.isDestructor = true ∧ d.vis > 1) ∧ (forcePublish d = true ∨ d.vis ≤ cfg.minVis) ∧
       d.involvesProtected = false ∧ d.ignoreInvolved = false ∧ d.ignoreMember = false ∧ d.inheritedPublished = false ∧ d.rvalueRef = false) := by
  simp only [passes, methodGates, fires, List.all_cons, List.all_nil, Bool.and_true, Bool.and_eq_true, Bool.not_eq_true',
    Bool.not_eq_false', decide_eq_false_iff_not, Nat.not_lt, Bool.and_eq_false_iff, Decidable.not_and_iff_not_or_not,
    Bool.not_eq_true, gt_iff_lt]

/-- **Nothing leaks.** A function or method that is below the requested visibility (and not one of
the two documented exceptions), deleted, from a file that is not local, or whose signature involves
a protected/private type or an rvalue reference, is never exported — whatever else holds. -/
theorem c04_no_leak (cfg : Cfg) (d : Decl)
    (h : (d.vis > cfg.minVis ∧ forcePublish d = false) ∨ d.deleted = true ∨ d.involvesProtected = true ∨ d.rvalueRef = true ∨ d.template = true) :
    passes methodGates cfg d = false ∧ (d.localFile = false ∨ d.vis > cfg.minVis ∨ d.deleted = true ∨ d.involvesProtected = true ∨ d.rvalueRef = true ∨ d.template = true →
      passes functionGates cfg d = false) := by
  -- each hypothesis names the guard that fires
  constructor
  · rcases h with ⟨hv, hf⟩ | h | h | h | h
    · exact not_passes .visUnlessForced (by decide) (by simp [fires, hv, hf])
    · exact not_passes .deleted (by decide) h
    · exact not_passes .involvesProtected (by decide) h
    · exact not_passes .rvalue (by decide) h
    · exact not_passes .template (by decide) h
  · rintro (h | h | h | h | h | h)
    · exact not_passes .notlocal (by decide) (by simp [fires, h])
    · exact not_passes .vis (by decide) (by simp [fires, h])
    · exact not_passes .staticOrDeleted (by decide) (by simp [fires, h])
    · exact not_passes .involvesProtected (by decide) h
    · exact not_passes .rvalue (by decide) h
    · exact not_passes .template (by decide) h

/-- classes: a local, non-template class is scanned iff it or one of its members reaches the
requested visibility; enums and object-like macros need the visibility themselves -/
theorem c04_struct_iff (cfg : Cfg) (d : Decl) :
    passes structGates cfg d = true ↔
      (d.isNull = false ∧ d.template = false ∧ d.cFile = false ∧ d.localFile = true ∧ (d.vis ≤ cfg.minVis ∨ d.anyMemberExported = true)) := by
  simp only [passes, structGates, fires, List.all_cons, List.all_nil, Bool.and_true, Bool.and_eq_true, Bool.not_eq_true',
    decide_eq_false_iff_not, Nat.not_lt, Bool.and_eq_false_iff, Bool.not_eq_false']

theorem c04_enum_manifest (cfg : Cfg) (d : Decl) :
    (passes enumGates cfg d = true → d.localFile = true ∧ d.vis ≤ cfg.minVis) ∧
    (passes manifestGates cfg d = true → d.localFile = true ∧ d.vis ≤ cfg.minVis ∧ d.functionLike = false) := by
  simp only [passes, enumGates, manifestGates, fires, List.all_cons, List.all_nil, Bool.and_true, Bool.and_eq_true, Bool.not_eq_true',
    decide_eq_false_iff_not, Nat.not_lt, Bool.not_eq_false']
  exact ⟨fun h => h.2.2.2, fun h => h.2.2⟩

/-- **-promiscuous only adds**: raising the requested visibility never removes an export -/
theorem c04_promiscuous_monotone (gs : List Gate) (cfg cfg' : Cfg) (d : Decl) (hm : cfg.minVis ≤ cfg'.minVis)
    (h : passes gs cfg d = true) : passes gs cfg' d = true :=
  passes_iff.2 fun g hg => fires_anti hm d g (passes_iff.1 h g hg)

-- non-vacuity: a published method of a local class is exported by default, a merely public one only under -promiscuous
example : passes methodGates ⟨0⟩ { vis := 0 } = true ∧ passes methodGates ⟨0⟩ { vis := 1 } = false ∧ passes methodGates ⟨1⟩ { vis := 1 } = true := by decide +kernel
example : passes functionGates ⟨0⟩ { vis := 0, localFile := false } = false := by decide +kernel
example : passes methodGates ⟨0⟩ { vis := 1, isDestructor := true } = true ∧ passes methodGates ⟨1⟩ { vis := 2, isDestructor := true } = false := by decide +kernel

end IgVerif.C04
