import IgVerif.Lemmas.DbFile
import IgVerif.Model.ConfB
import IgVerif.Lemmas.Mirror
/-!
# C12 — database files round-trip exactly; older 3.x files stay readable

`schema` is the layout extracted from the current C++ source, so `c12_mirror`, `c12_schema_wf`
and `c12_copy_complete` are re-decided by the kernel against what the code says now.
-/
namespace IgVerif.C12

/-- the translator understood every `output()`/`input()` body -/
theorem c12_extraction_ok : Gen.dbSchemaExtractionFailed = false := rfl

/-- Every count that an `input()` body reads into a local and then uses as a loop bound or a
`reserve()` size either starts from an initialiser or is followed by a look at the stream state:
on a truncated file (the stream already failed, so `>>` stores nothing) no loop runs on an
indeterminate count.  The list is extracted from the source on every run. -/
theorem c12_counts_guarded : Gen.unguardedCounts = [] := rfl

/-- `input()` reads exactly the fields `output()` writes, in the same order, for
all six record kinds and the three sub-record kinds -/
theorem c12_mirror : (mergeSchema Gen.outSchema Gen.inSchema).isSome = true := schema_mirror

/-- every number is followed by whitespace where another token follows, every
string separator is whitespace, and no field is gated on a future minor version -/
theorem c12_schema_wf : SchemaWF schema = true := by rw [schema_eq]; decide +kernel

/-- fields written by `output()` are preserved when a record is copied into the
database's maps (`add_type` etc. copy the record that was just read) -/
theorem c12_copy_complete : copyComplete = true := by decide +kernel

/-- **Round trip.** Loading the bytes `write` produces yields exactly the database
written — for all names, comments, prototypes and definitions (any bytes at all)
— and raises the error flag only for an identifier mismatch. -/
theorem c12_roundtrip (f : DbFile) (hc : FileConf curMinor schema f) (expectId : Int) :
    load schema expectId (encFile schema f) =
      { errorFlag := expectId != 0 && f.fileId != expectId, merged := some f } :=
  load_encFileAs curMinor (Nat.le_refl _) schema c12_schema_wf f hc expectId

/-- re-serialising what was loaded gives identical bytes -/
theorem c12_reserialise (f g : DbFile) (hc : FileConf curMinor schema f) (e : Int)
    (h : (load schema e (encFile schema f)).merged = some g) :
    encFile schema g = encFile schema f := by
  rw [c12_roundtrip f hc e] at h
  simp at h
  rw [h]

/-- **Older minor formats.** A file in format 3.m (m ≤ 3) loads to exactly the
database that was written, the fields that format lacks holding their default 0
(that is what `FileConf m` says of them). -/
theorem c12_old_minor (m : Nat) (hm : m ≤ curMinor) (f : DbFile) (hc : FileConf m schema f)
    (expectId : Int) :
    load schema expectId (encFileAs m schema f) =
      { errorFlag := expectId != 0 && f.fileId != expectId, merged := some f } :=
  load_encFileAs m hm schema c12_schema_wf f hc expectId

/-- **Version gate.** A different major version or a newer minor version is
flagged and nothing is merged, whatever follows the header. -/
theorem c12_version_gate (sch : Schema) (bytes r : Bytes) (id maj min e : Int)
    (hh : decHeader bytes = .ok ((id, maj, min), r)) (hv : maj ≠ curMajor ∨ min > (curMinor : Int)) :
    load sch e bytes = { errorFlag := true, merged := none } := by
  unfold load
  rw [hh]
  exact if_pos (by simpa using hv)

/-- **Identifier mismatch** is always reported through the error flag. -/
theorem c12_id_mismatch_flagged (sch : Schema) (bytes r : Bytes) (id maj min e : Int)
    (hh : decHeader bytes = .ok ((id, maj, min), r)) (he : e ≠ 0) (hne : id ≠ e) :
    (load sch e bytes).errorFlag = true := by
  unfold load
  rw [hh]
  have : (e != 0 && id != e) = true := by simp [he, hne]
  simp only [this]
  split
  · rfl
  · split <;> rfl

/-- **Never half-merged.** Whenever anything is merged the whole body decoded,
and the error flag can then only stem from the identifier check; a file whose
header does not parse is flagged. -/
theorem c12_merge_only_complete (sch : Schema) (bytes : Bytes) (e : Int) (g : DbFile)
    (h : (load sch e bytes).merged = some g) :
    ∃ id maj min r r', decHeader bytes = .ok ((id, maj, min), r) ∧ maj = curMajor ∧
      min ≤ (curMinor : Int) ∧ decBody sch min.toNat id r = .ok (g, r') := by
  unfold load at h
  split at h
  · cases h
  · next id maj min r hh =>
    split at h
    · cases h
    · next hv =>
      split at h
      · cases h
      · cases h
      · next f r' hb =>
        cases h
        simp only [Bool.or_eq_true, bne_iff_ne, ne_eq, decide_eq_true_eq, not_or, Decidable.not_not,
          Int.not_lt] at hv
        exact ⟨id, maj, min, r, r', hh, hv.1, hv.2, hb⟩

theorem c12_bad_header_flagged (sch : Schema) (bytes : Bytes) (e : Int) (x : Err)
    (h : decHeader bytes = .error x) : load sch e bytes = { errorFlag := true, merged := none } := by
  unfold load; rw [h]

/-! ## Non-vacuity: a concrete database with awkward strings meets `FileConf`. -/

def sampleType : List Val :=
  [.a (.str [65, 32, 10, 34, 255]), .strs [[], [32, 32]], .a (.int 4194304), .a (.str []), .a (.str [0x80, 0xFF]),
   .a (.int 0), .a (.int 0), .a (.int 7), .a (.int 3), .ints [5, -1], .a (.int 0), .ints [], .ints [2], .ints [],
   .ints [], .recs [[.int 1, .int 7, .int 0, .int (-2147483648)]],
   .recs [[.str [97], .str [], .str [10, 10], .int 2147483647]], .ints [], .a (.str [47, 42, 10])]

def sampleFile : DbFile :=
  { fileId := 1234567, lib := [108], hash := [], mod := [109, 32, 109],
    functions := [], wrappers := [], types := [(7, sampleType)], manifests := [], elements := [], makeSeqs := [] }

theorem sampleFile_conf : fileConfB curMinor schema sampleFile = true := by rw [schema_eq]; decide +kernel

example : FileConf curMinor schema sampleFile := fileConfB_sound sampleFile_conf
example : load schema 1234567 (encFile schema sampleFile) = { errorFlag := false, merged := some sampleFile } :=
  c12_roundtrip sampleFile (fileConfB_sound sampleFile_conf) 1234567

end IgVerif.C12
