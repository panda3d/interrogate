import IgVerif.Model.Dispatch
import IgVerif.Gen.C02Keywords
/-!
# C02 — the overload that runs is the one C++ would select
-/
namespace IgVerif.C02
open IgVerif.Dp

/-- wrong argument count never reaches a C++ function -/
theorem c02_arity_gate (sub : Nat → Nat → Bool) (rs : List Remap) (args : List PyV) (r : Remap)
    (h : dispatch sub rs args = some r) : r ∈ rs ∧ r.minArgs ≤ args.length ∧ args.length ≤ r.cats.length ∧ acceptsAll sub r.cats args = true := by
  unfold dispatch at h
  have hm := List.mem_of_find?_eq_some h
  have hp := List.find?_some h
  simp only [viable, Bool.and_eq_true, decide_eq_true_eq] at hp
  exact ⟨hm, hp.1.1, hp.1.2, hp.2⟩

/-- if no overload accepts the arguments the call is refused (`TypeError`), no function runs -/
theorem c02_no_viable_typeerror (sub : Nat → Nat → Bool) (rs : List Remap) (args : List PyV)
    (h : ∀ r ∈ rs, viable sub r args = false) : dispatch sub rs args = none :=
  List.find?_eq_none.2 fun r hr => by simp [h r hr]

/-- **Several viable overloads** (e.g. `f(int)` and `f(double)` called with an int): if the
emission order never puts a better match after a worse one, and `w` is better than every other
viable overload, `w` runs.  (`better` is any relation; C++'s is "at least as good a conversion in
every argument and strictly better in one".) -/
theorem c02_first_viable_is_best (sub : Nat → Nat → Bool) (better : Remap → Remap → Prop) (rs : List Remap) (args : List PyV) (w : Remap)
    (hsorted : rs.Pairwise (fun a b => ¬ better b a))
    (hw : w ∈ rs) (hv : viable sub w args = true)
    (hbest : ∀ r ∈ rs, viable sub r args = true → r ≠ w → better w r) :
    dispatch sub rs args = some w := by
  unfold dispatch
  cases hf : rs.find? (fun r => viable sub r args) with
  | none => exact absurd hv (List.find?_eq_none.1 hf w hw)
  | some x =>
    obtain ⟨hx, l, r, rfl, hl⟩ := List.find?_eq_some_iff_append.1 hf
    by_cases hxw : x = w
    · rw [hxw]
    · -- x is viable and is not w, so w is better than x; but w stands after x
      have hwr : w ∈ r := by
        rcases List.mem_append.1 hw with h | h
        · have := hl w h; rw [hv] at this; cases this
        · exact (List.mem_cons.1 h).resolve_left (Ne.symm hxw)
      exact absurd (hbest x (by simp) hx hxw) (List.rel_of_pairwise_cons (List.pairwise_append.1 hsorted).2.1 hwr)

/-- **Unique viable overload.** When exactly one overload of the set accepts the arguments — the
case for overload sets whose members differ in some parameter's type category or in arity — that
overload runs, wherever it stands in the emission order. -/
theorem c02_dispatch_unique (sub : Nat → Nat → Bool) (rs : List Remap) (args : List PyV) (w : Remap)
    (hw : w ∈ rs) (hv : viable sub w args = true) (hu : ∀ r ∈ rs, viable sub r args = true → r = w) :
    dispatch sub rs args = some w :=
  -- the case of `c02_first_viable_is_best` in which nothing needs to be better than anything
  c02_first_viable_is_best sub (fun _ _ => False) rs args w (List.pairwise_of_forall fun _ _ => id) hw hv
    fun r hr hvr hne => absurd (hu r hr hvr) hne

theorem c02_dispatch_order_independent (sub : Nat → Nat → Bool) (rs rs' : List Remap) (args : List PyV) (w : Remap)
    (hp : rs.Perm rs') (hw : w ∈ rs) (hv : viable sub w args = true) (hu : ∀ r ∈ rs, viable sub r args = true → r = w) :
    dispatch sub rs args = dispatch sub rs' args := by
  rw [c02_dispatch_unique sub rs args w hw hv hu,
      c02_dispatch_unique sub rs' args w (hp.mem_iff.mp hw) hv (fun r hr => hu r (hp.mem_iff.mpr hr))]

-- f(int), f(double), f(str), f(K const &), f(int, int=…): who runs?
private def sub0 : Nat → Nat → Bool := fun d b => d == b || (d == 1 && b == 0)     -- class 1 derives from class 0
private def fi : Remap := ⟨[.int], 1, 1⟩
private def fd : Remap := ⟨[.float], 1, 2⟩
private def fs : Remap := ⟨[.str], 1, 3⟩
private def fk : Remap := ⟨[.obj 0 true], 1, 4⟩
private def fm : Remap := ⟨[.obj 0 false], 1, 5⟩
private def fii : Remap := ⟨[.int, .int], 2, 6⟩      -- no default
example : dispatch sub0 [fi, fd, fs, fk] [.int] = some fi ∧ dispatch sub0 [fi, fd, fs, fk] [.float] = some fd ∧
    dispatch sub0 [fi, fd, fs, fk] [.inst 1 true] = some fk ∧ dispatch sub0 [fi, fd, fs, fk] [.none] = none := by decide +kernel
-- a const instance is refused by a non-const parameter, whatever else is in the set
example : dispatch sub0 [fm, fi] [.inst 0 true] = none ∧ dispatch sub0 [fm, fi] [.inst 0 false] = some fm := by decide +kernel
example : dispatch sub0 [fii] [.int] = none ∧ dispatch sub0 [⟨[.int, .int], 1, 7⟩] [.int] = some ⟨[.int, .int], 1, 7⟩ := by decide +kernel

/-- lexicographic "greater" on rank vectors (higher `get_type_sort` first) -/
def lexGt : List Nat → List Nat → Bool
  | [], _ => false
  | _ :: _, [] => true
  | x :: xs, y :: ys => if x > y then true else if x < y then false else lexGt xs ys

/-- C++'s "better viable function" on the rank vectors of two overloads of equal arity: at least
as specific in every parameter and more specific in one -/
def pointwiseGe : List Nat → List Nat → Bool
  | [], [] => true
  | x :: xs, y :: ys => decide (x ≥ y) && pointwiseGe xs ys
  | _, _ => false

def someGt : List Nat → List Nat → Bool
  | x :: xs, y :: ys => decide (x > y) || someGt xs ys
  | _, _ => false

theorem better_lexGt : ∀ (a b : List Nat), pointwiseGe a b = true → someGt a b = true → lexGt a b = true
  | [], [], _, h => by cases h
  | [], _ :: _, h, _ => by cases h
  | _ :: _, [], h, _ => by cases h
  | x :: xs, y :: ys, hge, hgt => by
    simp only [pointwiseGe, Bool.and_eq_true, decide_eq_true_eq] at hge
    simp only [someGt, Bool.or_eq_true, decide_eq_true_eq] at hgt
    rw [lexGt]
    split
    · rfl
    · -- x = y here, so the strict improvement is further on
      rw [if_neg (by omega)]
      exact better_lexGt xs ys hge.2 (hgt.resolve_left ‹_›)

theorem lexGt_asymm : ∀ (a b : List Nat), lexGt a b = true → lexGt b a = false
  | [], _, h => by cases h
  | _ :: _, [], _ => rfl
  | x :: xs, y :: ys, h => by
    rw [lexGt] at h ⊢
    split at h
    · rw [if_neg (by omega), if_pos ‹_›]
    · split at h
      · cases h
      · rw [if_neg ‹_›, if_neg ‹_›]
        exact lexGt_asymm xs ys h

/-- **Sorted by specificity ⇒ no better match after a worse one.** If the overloads are emitted
in an order in which no later rank vector is lexicographically greater than an earlier one (what
sorting with `RemapCompareLess` gives for overloads of one arity), then no later overload is a
better match, in C++'s sense, than an earlier one: the hypothesis `hsorted` of
`c02_first_viable_is_best` with `better a b := pointwiseGe ∧ someGt` on the rank vectors. -/
theorem c02_rank_order_gives_hsorted (ranks : Remap → List Nat) (rs : List Remap)
    (hs : rs.Pairwise (fun a b => lexGt (ranks b) (ranks a) = false)) :
    rs.Pairwise (fun a b => ¬ (pointwiseGe (ranks b) (ranks a) = true ∧ someGt (ranks b) (ranks a) = true)) := by
  refine hs.imp fun hab hbetter => ?_
  rw [better_lexGt _ _ hbetter.1 hbetter.2] at hab
  cases hab

/-- `keyword.kwlist` of CPython 3.11 (the check compares this list with the running interpreter's) -/
def python3Keywords : List String :=
  ["False", "None", "True", "and", "as", "assert", "async", "await", "break", "class", "continue", "def", "del", "elif", "else", "except",
   "finally", "for", "from", "global", "if", "import", "in", "is", "lambda", "nonlocal", "not", "or", "pass", "raise", "return", "try", "while", "with", "yield"]

/-- **Every Python keyword is renamed**: the table `checkKeyword` consults, as it stands in the
source now, contains every keyword of Python 3, so no exported name is unusable as an attribute. -/
theorem c02_keywords_cover : Gen.c02ExtractionFailed = false ∧ ∀ k ∈ python3Keywords, k ∈ Gen.c02PythonKeywords := by decide +kernel

/-- the ranks of `get_type_sort` order the categories as C++ prefers them: an exact integer match
before a floating-point conversion, strings and classes before numbers -/
theorem c02_rank_facts :
    Gen.c02TypeRanks.lookup "integer" = some 5 ∧ Gen.c02TypeRanks.lookup "double" = some 4 ∧ Gen.c02TypeRanks.lookup "float" = some 3 ∧
    Gen.c02TypeRanks.lookup "string" = some 9 ∧ Gen.c02TypeRanks.lookup "class" = some 20 := by decide +kernel

end IgVerif.C02
