import IgVerif.Lemmas.CType
import IgVerif.Model.Scope
/-!
# C06 — every printed type is the type that was written
-/
namespace IgVerif.Sc

theorem findType_eq_findSome? (chain : List Scope) (n : String) : findType chain n = chain.findSome? (findLocal · n) := by
  induction chain with
  | nil => rfl
  | cons s outer ih => rw [findType, List.findSome?_cons, ih]; cases findLocal s n <;> rfl

end IgVerif.Sc

namespace IgVerif.C06
open IgVerif.CT IgVerif.Sc

/-- **Printed text denotes the type.** For every type of the supported shapes — any nesting of
pointers, references, arrays, functions (with any parameter lists), `const` on names and
pointers — and every name, the tokens `output_instance` prints are derived by the C++
declarator grammar as a declaration of exactly that name with exactly that type. -/
theorem c06_print_denotes (t : CType) (h : WF t = true) (n : Option String) :
    DeclG (oi t [] (nameToks n)) t n :=
  oi_denotes t h [] (nameToks n) (.name n) (.name n) (NoPtrD.id n) PreOps.nil

/-- **`unroll_type` is the ISO meaning of the declarator**, whatever redundant parentheses were
written: the modifier list pushed by the grammar, unrolled over the base type, is
`denote` of the declarator. -/
theorem c06_unroll (cd : CDecl) (b : CType) : unroll (mods cd) b = denote (erase cd) b :=
  unroll_mods cd b

/-- **Parse then print.** A declaration `b cd` is stored as `unroll (mods cd) b` and printed
as text that derives `denote (erase cd) b`: the type that was written. -/
theorem c06_parse_print (cd : CDecl) (b : CType) (h : WF (unroll (mods cd) b) = true) (n : Option String) :
    DeclG (oi (unroll (mods cd) b) [] (nameToks n)) (denote (erase cd) b) n := by
  rw [← c06_unroll]
  exact c06_print_denotes _ h n

/-- the parameter list printed for a function type derives its parameter types in order -/
theorem c06_params (ps : CParams) (h : WFs ps = true) (v : Bool) : ParamsG (oparams ps v) ps v :=
  oparams_denotes ps h v

/-- **Innermost wins.** If the innermost scope (with its bases and using-directives)
contributes the name, that entity is the answer whatever the outer scopes declare. -/
theorem c06_lookup_innermost (s : Scope) (outer : List Scope) (n : String) (e : Nat)
    (h : findLocal s n = some e) : findType (s :: outer) n = some e := by
  simp [findType, h]

/-- **Skip.** A scope that does not contribute the name is transparent. -/
theorem c06_lookup_skip (s : Scope) (outer : List Scope) (n : String)
    (h : findLocal s n = none) : findType (s :: outer) n = findType outer n := by
  simp [findType, h]

/-- **Own declarations shadow bases and using-directives.** -/
theorem c06_lookup_own (types : List (String × Nat)) (us bs : List Scope) (n : String) (e : Nat)
    (h : lookupAssoc types n = some e) : findLocal (.mk types us bs) n = some e := by
  simp [findLocal, h]

/-- the answer is always an entity declared in one of the scopes of the chain (or reachable
from one through bases / using-directives): nothing is invented -/
theorem c06_lookup_sound (chain : List Scope) (n : String) (e : Nat) (h : findType chain n = some e) :
    ∃ s ∈ chain, findLocal s n = some e := by
  rw [findType_eq_findSome?] at h
  exact List.exists_of_findSome?_eq_some h

private def int := CType.base "int"
-- pointer to array, reference to array, function returning pointer to array
example : oi (.ptr (.arr int (some 3))) [] [Tok.ident "p"]
    = [Tok.ident "int", .lp, .star, .ident "p", .rp, .lb, .num 3, .rb] := by decide +kernel
example : oi (.arr (.ptr int) (some 3)) [] [Tok.ident "p"]
    = [Tok.ident "int", .star, .ident "p", .lb, .num 3, .rb] := by decide +kernel
example : oi (.fn (.ptr (.arr int (some 4))) (.cons int (some "a") .nil) false) [] [Tok.ident "f"]
    = [Tok.ident "int", .lp, .star, .ident "f", .lp, .ident "int", .ident "a", .rp, .rp, .lb, .num 4, .rb] := by decide +kernel
example : oi (.ptr (.fn int .nil false)) [] [] = [Tok.ident "int", .lp, .star, .rp, .lp, .ident "void", .rp] := by decide +kernel
example : WF (.const (.ptr (.ptr (.const int)))) = true := by decide +kernel
example : oi (.const (.ptr (.ptr (.const int)))) [] [Tok.ident "q"]
    = [Tok.ident "int", .kconst, .star, .star, .kconst, .ident "q"] := by decide +kernel
-- `int (*q[2])`: the redundant parentheses change nothing, `q` is an array of two pointers to int
example : (unroll (mods (.paren (.ptr false (.arr (.name (some "q")) (some 2))))) int).beq (.arr (.ptr int) (some 2)) = true := by decide +kernel

-- shadowing: Handle declared in app (nearer) and in core (encloses only the base)
private def coreObject : Scope := .mk [] [] []
private def widget : Scope := .mk [("IdPtr", 7)] [] [coreObject]
private def app : Scope := .mk [("Handle", 1), ("Id", 2)] [] []
private def globalScope : Scope := .mk [("Handle", 99)] [] []
example : findType [widget, app, globalScope] "Handle" = some 1 := by decide +kernel

end IgVerif.C06
