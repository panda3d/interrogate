import IgVerif.Lemmas.Path
import IgVerif.Model.Include
/-!
# C17 — include lookup, path normalisation and file ownership
-/
namespace IgVerif.C17
open IgVerif.Path IgVerif.Inc

/-- **Normalisation is idempotent** for every path (any components, any length). -/
theorem c17_std_idempotent (p : P) : stdC (stdC p) = stdC p := stdC_idem p

/-- **Normalisation never changes which entry a path denotes** (directory trees
without symbolic links; `.`/`..`/repeated slashes in any arrangement). -/
theorem c17_std_denotes (fs : FS) (cwd : List String) (hwf : fs.WF cwd) (p : P) (l : List String)
    (h : resolve fs cwd p = some l) : resolve fs cwd (stdC p) = some l :=
  stdC_denotes fs cwd hwf.cwdDir p l h

/-- the result of normalisation is never the empty path -/
theorem c17_std_nonempty_relative (p : P) (h : p.global = false) : (stdC p).comps ≠ [] :=
  (stdC_normal p).2 ((stdC_global p).trans h)

/-- `#include <x>` is looked for only in the -S directories (unless -noangles) … -/
theorem c17_angle_only_S (ex : String → Bool) (cfg : Cfg) (dir name : String) (h : cfg.noangles = false)
    (r : String × Source) (hr : findInclude ex cfg dir name true = some r) :
    r.2 = .system ∧ ∃ d ∈ cfg.angleDirs, r.1 = joinDir d name := by
  unfold findInclude candidates at hr
  simp only [h, Bool.not_false, Bool.and_true, if_true] at hr
  have hm := List.mem_of_find?_eq_some hr
  simp only [List.mem_map] at hm
  obtain ⟨d, hd, e⟩ := hm
  exact ⟨by rw [← e], d, hd, by rw [← e]⟩

/-- … and under -noangles exactly like `#include "x"` -/
theorem c17_noangles_like_quotes (ex : String → Bool) (cfg : Cfg) (dir name : String) (h : cfg.noangles = true) :
    findInclude ex cfg dir name true = findInclude ex cfg dir name false := by
  simp [findInclude, candidates, h]

/-- `#include "x"`: working directory first, then the includer's directory, then the
-I and -S directories in command-line order; the first existing candidate wins -/
theorem c17_search_order (ex : String → Bool) (cfg : Cfg) (dir name : String) :
    findInclude ex cfg dir name false =
      ((name, Source.loc) :: (joinDir dir name, Source.alternate) ::
        cfg.quoteDirs.map fun p => (joinDir p.1 name, p.2)).find? fun c => ex c.1 := by
  simp [findInclude, candidates]

/-- a file that does not exist anywhere is not found (the directive is skipped with a warning) -/
theorem c17_missing_skipped (ex : String → Bool) (cfg : Cfg) (dir name : String) (angle : Bool)
    (h : ∀ c ∈ candidates cfg dir name angle, ex c.1 = false) : findInclude ex cfg dir name angle = none := by
  unfold findInclude
  rw [List.find?_eq_none]
  intro c hc
  simp [h c hc]

/-- a file reached through a -S directory is never the user's own unless it was named on the command line -/
theorem c17_S_never_local (explicit : List String) (canonical : String) (h : explicit.contains canonical = false) :
    classify explicit canonical .system = .system := by
  unfold classify
  rw [h]
  rfl

/-! ## non-vacuity -/
example : stdC ⟨false, ["a", "..", "b", ".", "..", ".."]⟩ = ⟨false, [".."]⟩ := by decide +kernel
example : stdC ⟨false, ["a", ".."]⟩ = ⟨false, ["."]⟩ := by decide +kernel
example : stdC ⟨true, ["..", "a", ".", "b", ".."]⟩ = ⟨true, ["..", "a"]⟩ := by decide +kernel
example : stdC ⟨false, [".", "..", "x"]⟩ = ⟨false, ["..", "x"]⟩ := by decide +kernel

end IgVerif.C17
