import IgVerif.Lemmas.Names
/-!
# C03 — wrapper symbols and unique names are distinct, valid identifiers
-/
namespace IgVerif.C03
open IgVerif.Nm

/-- a signature / library hash is always four characters of `[A-Za-z0-9_]` -/
theorem c03_hash_alphabet (name : List Nat) (off : Nat) :
    (hashString name off).length = 4 ∧ ∀ c ∈ hashString name off, identChar c = true :=
  encode24_valid _

/-- `clean_identifier` yields only alphanumerics and `_` -/
theorem c03_clean_valid (name : List Nat) : ∀ c ∈ cleanIdentifier name, okByte c = true :=
  cleanLoop_chars name false

/-- **Fresh.** Whatever hashes collided before, the hash handed to a new signature is
not in use, and existing ones stay in use (names are never recycled). -/
theorem c03_assign_fresh (m : HMap) (sig : Sig) (m' : HMap) (h : List Char) (ha : assign m sig = (m', some h)) :
    m.has h = false ∧ m'.has h = true ∧ ∀ k, m.has k = true → m'.has k = true :=
  assign_fresh m sig m' h ha

/-- **Distinct.** For every sequence of signatures — including adversarial ones whose
24-bit hashes all collide — the hashes handed out are pairwise distinct; hence so are
the wrapper symbols and unique names (prefix + library hash + this hash). -/
theorem c03_assign_distinct (sigs : List Sig) (m : HMap) :
    (assignAll m sigs).Pairwise (fun a b => a.isSome = true → a ≠ b) :=
  assignAll_pairwise sigs m

/-- **Total.** A symbol is always found: the search over `a`…`z`, `26`, `27`, … cannot fail, because
among `n+1` pairwise different candidates at most `n` are in use (pigeonhole); only a signature that
is already registered under its own hash is refused (the generator's "Function signature repeated"
abort). -/
theorem c03_assign_total (m : HMap) (sig : Sig) (hrep : m.find (hashString sig 5) ≠ some (some sig)) :
    ∃ h, (assign m sig).2 = some h := by
  fun_cases assign m sig with
  | case1 => exact ⟨_, rfl⟩
  | case2 _ entry hfind he => exact absurd (by rw [hfind, eq_of_beq he]) hrep
  | case3 => obtain ⟨h, e, _⟩ := place_spec ..; exact ⟨h, by rw [e]⟩

/-! ## non-vacuity / tests by evaluation -/

-- two signatures that collide under both shift offsets (characters 24 apart swapped)
def sigA : Sig := "abcdefghijklmnopqrstuvwxyz0(int)".toList.map Char.toNat
def sigB : Sig := "ybcdefghijklmnopqrstuvwxaz0(int)".toList.map Char.toNat
example : hashString sigA 5 = hashString sigB 5 ∧ hashString sigA 11 = hashString sigB 11 ∧ sigA ≠ sigB := by decide +kernel
example : (assignAll [] [sigA, sigB]).map (Option.map List.length) = [some 4, some 9] := by decide +kernel

end IgVerif.C03
