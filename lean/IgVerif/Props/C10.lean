import IgVerif.Lemmas.Traits
/-!
# C10 — class traits follow the C++ rules
-/
namespace IgVerif.C10
open IgVerif.Tr

/-- **`get_virtual_funcs` computes the final overriders.** For every hierarchy (any depth, any
number of bases, any mix of declared / overriding / deleted functions), an entry `(n, p)` is in
the list iff, in some base-class sub-object or in the class itself, virtual function `n` has a
final overrider of pureness `p`: a function of a base sub-object survives unless the class
re-declares it; a declared function takes part if it is declared virtual or overrides one. -/
theorem c10_vfuncs_spec (c : Cls) (n : Nat) (p : Bool) : (⟨n, p⟩ : VF) ∈ vfuncs c ↔ FinalOv c n p :=
  mem_vfuncs c n p

/-- **Abstract** iff some final overrider is pure — an inherited pure destructor excepted, which
the class's own (possibly implicit) destructor always overrides. Valid for non-virtual
inheritance; see the partial list for shared virtual bases. -/
theorem c10_abstract_spec (c : Cls) :
    isAbstract c = true ↔ ∃ n, FinalOv c n true ∧ (n ≠ dtorId ∨ c.dtor.isSome = true) := by
  simp only [isAbstract, List.any_eq_true, Bool.and_eq_true, Bool.or_eq_true, bne_iff_ne, ne_eq]
  exact ⟨fun ⟨⟨n, p⟩, hm, hp, hd⟩ => ⟨n, (mem_vfuncs c n true).1 (hp ▸ hm), hd⟩,
    fun ⟨n, hf, hd⟩ => ⟨⟨n, true⟩, (mem_vfuncs c n true).2 hf, rfl, hd⟩⟩

/-- **Polymorphic** iff the class has a virtual function, own or inherited. -/
theorem c10_polymorphic_spec (c : Cls) : isPolymorphic c = true ↔ ∃ n p, FinalOv c n p := by
  rw [isPolymorphic, Bool.not_eq_true', List.isEmpty_eq_false_iff_exists_mem]
  exact ⟨fun ⟨⟨n, p⟩, h⟩ => ⟨n, p, (mem_vfuncs c n p).1 h⟩, fun ⟨n, p, h⟩ => ⟨⟨n, p⟩, (mem_vfuncs c n p).2 h⟩⟩

/-- **Never a constructor for an abstract class**: the public queries that decide whether an
implicit default / copy constructor is exported refuse abstract classes. -/
theorem c10_no_ctor_for_abstract (c : Cls) (h : isAbstract c = true) : isDefault c = false ∧ isCopy c = false := by
  simp [isDefault, isCopy, h]

/-- a user-provided (not defaulted) destructor alone decides destructibility -/
theorem c10_declared_dtor_decides (bases : Bases) (dctor : Option SM) (octor : Bool) (cctor mctor : Option SM) (sm : SM) (ma : Bool)
    (fields : Fields) (vfns : List VDecl) (v : Nat) (hd : sm.defaulted = false) :
    isDestructibleV (.mk bases dctor octor cctor mctor (some sm) ma fields vfns) v = (decide (sm.vis ≤ v) && !sm.deleted) := by
  simp only [isDestructibleV, gate, hd]
  by_cases h1 : sm.vis > v
  · simp [h1, Nat.not_le.2 h1]
  · cases sm.deleted <;> simp [h1, Nat.le_of_not_gt h1]

/-- a deleted default constructor / copy constructor / destructor is never usable, whoever asks -/
theorem c10_deleted_never_constructible (bases : Bases) (octor : Bool) (o1 o2 o3 : Option SM) (sm : SM) (ma : Bool)
    (fields : Fields) (vfns : List VDecl) (v : Nat) (hd : sm.deleted = true) :
    isDefaultV (.mk bases (some sm) octor o1 o2 o3 ma fields vfns) v = false ∧
    isCopyV (.mk bases o1 octor (some sm) o2 o3 ma fields vfns) v = false ∧
    isDestructibleV (.mk bases o1 octor o2 o3 (some sm) ma fields vfns) v = false := by
  refine ⟨?_, ?_, ?_⟩ <;>
  · simp only [isDefaultV, isCopyV, isDestructibleV, gate, hd]
    by_cases h1 : sm.vis > v <;> simp [h1]

/-- **[class.copy.ctor]/6**: a class that declares a move constructor *or a move assignment
operator* and no copy constructor has no usable copy constructor, whoever asks and whatever its
bases and members are -/
theorem c10_move_deletes_copy (bases : Bases) (dctor : Option SM) (octor : Bool) (mctor dtor : Option SM) (ma : Bool)
    (fields : Fields) (vfns : List VDecl) (v : Nat) (h : mctor.isSome = true ∨ ma = true) :
    isCopyV (.mk bases dctor octor none mctor dtor ma fields vfns) v = false := by
  simp [isCopyV, Bool.or_eq_true_iff.2 h]

/-- without either, the implicit copy constructor is usable exactly when the destructor is and
every base and non-static member can be copied and destroyed -/
theorem c10_implicit_copy (bases : Bases) (dctor : Option SM) (octor : Bool) (dtor : Option SM)
    (fields : Fields) (vfns : List VDecl) (v : Nat) :
    isCopyV (.mk bases dctor octor none none dtor false fields vfns) v = (ownDtorOk dtor v && copyB bases && copyF fields) := by
  simp [isCopyV]

/-- **Access is monotone**: what a less privileged context may do, a more privileged one may do as
well — a class destructible / default-constructible / copy-constructible for `min_vis = v` is so
for every `v' ≥ v` (public ⊂ protected ⊂ private access) -/
theorem c10_access_monotone (c : Cls) (v v' : Nat) (h : v ≤ v') :
    (isDestructibleV c v = true → isDestructibleV c v' = true) ∧
    (isDefaultV c v = true → isDefaultV c v' = true) ∧
    (isCopyV c v = true → isCopyV c v' = true) := by
  obtain ⟨bases, dctor, octor, cctor, mctor, dtor, ma, fields, vfns⟩ := c
  -- on `Cls.mk …` each query reduces to the shape of `verdict_mono`; only the copy query's implicit case reads `v`
  refine ⟨verdict_mono (o := dtor) (g0 := .implicit) h id, verdict_mono (o := dctor) h id, verdict_mono (o := cctor) h ?_⟩
  simp only [Bool.and_eq_true]
  exact fun ⟨⟨h1, h2⟩, h3⟩ => ⟨⟨ownDtorOk_mono dtor h h1, h2⟩, h3⟩

private def noSM : Option SM := none
private def pureF : VDecl := ⟨1, true, true, false⟩
private def plainF : VDecl := ⟨1, false, false, false⟩
/-- `struct A { virtual int f() = 0; };` -/
private def A : Cls := .mk .nil noSM false noSM noSM noSM false .nil [pureF]
/-- `struct B : A { int f(); };` — concrete, and (after the fix) default- and copy-constructible -/
private def B : Cls := .mk (.cons A 0 false .nil) noSM false noSM noSM noSM false .nil [plainF]
example : isAbstract A = true ∧ isAbstract B = false := by decide +kernel
example : isDefault B = true ∧ isCopy B = true ∧ isDefault A = false := by decide +kernel
/-- `struct P { virtual ~P() = 0; }; struct Q : P {};` — Q is not abstract -/
private def P : Cls := .mk .nil noSM false noSM noSM (some ⟨0, false, false, true, true⟩) false .nil []
private def Q : Cls := .mk (.cons P 0 false .nil) noSM false noSM noSM noSM false .nil []
example : isAbstract P = true ∧ isAbstract Q = false ∧ isPolymorphic Q = true := by decide +kernel
/-- `struct E : N { E() = default; };` with `N` not default-constructible: E() is deleted -/
private def N : Cls := .mk .nil noSM true noSM noSM noSM false .nil []
private def E : Cls := .mk (.cons N 0 false .nil) (some ⟨0, false, true, false, false⟩) false noSM noSM noSM false .nil []
example : isDefault N = false ∧ isDefault E = false := by decide +kernel
/-- a const member without initializer deletes the implicit default constructor -/
example : isDefault (.mk .nil noSM false noSM noSM noSM false (.cons (.cint false false) .nil) []) = false := by decide +kernel
example : isDefault (.mk .nil noSM false noSM noSM noSM false (.cons (.cint true false) .nil) []) = true := by decide +kernel
/-- `struct M { M &operator=(M &&); };` is not copy-constructible; `struct H { M m; };` neither -/
private def Mv : Cls := .mk .nil noSM false noSM noSM noSM true .nil []
example : isCopy Mv = false ∧ isDefault Mv = true ∧ isCopy (.mk .nil noSM false noSM noSM noSM false (.cons (.cls Mv false) .nil) []) = false := by decide +kernel

end IgVerif.C10
