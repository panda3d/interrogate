import IgVerif.Lemmas.Float
import IgVerif.Gen.C18Powers
/-!
# C18 — floating-point literals keep their value
-/
namespace IgVerif.C18
open IgVerif.Fl

theorem c18_extraction_ok : Gen.c18ExtractionFailed = false := rfl

/-- entry `(f, e)` for decimal exponent `k`: `f·2^e` is `10^k` rounded to 64 bits
(`|f·2^e − 10^k| ≤ 2^e / 2`, in integers) and `f` is normalised (top bit set) -/
def powerOk (f : Nat) (e k : Int) : Bool :=
  decide (2 ^ 63 ≤ f) && decide (f < 2 ^ 64) &&
  (if k ≥ 0 then
     if e ≥ 0 then
       let a := f * 2 ^ e.toNat
       let b := 10 ^ k.toNat
       decide (2 * (if a ≥ b then a - b else b - a) ≤ 2 ^ e.toNat)
     else
       let b := 10 ^ k.toNat * 2 ^ (-e).toNat
       decide (2 * (if f ≥ b then f - b else b - f) ≤ 1)
   else
     -- k < 0 (then e < 0):  |f·10^-k − 2^-e| · 2 ≤ 10^-k
     let a := f * 10 ^ (-k).toNat
     let b := 2 ^ (-e).toNat
     decide (2 * (if a ≥ b then a - b else b - a) ≤ 10 ^ (-k).toNat))

def powersOk : Bool :=
  (List.range Gen.cachedPowers.length).all fun i =>
    match Gen.cachedPowers[i]? with
    | some (f, e) => powerOk f e (Gen.powerBase + 8 * (i : Int))
    | none => false

/-- **The cached power table is right**: all 87 entries are the correctly rounded
64-bit significands of 10^-348, 10^-340, …, 10^340 (re-checked by the kernel on
the table as it stands in pdtoa.cxx) -/
theorem c18_cached_powers : powersOk = true ∧ Gen.cachedPowers.length = 87 := by decide +kernel

/-- the exponent writer: for every |K| < 1000 the digits written read back as |K|, with a `-` iff K < 0 -/
def expOk (K : Int) : Bool :=
  let cs := writeExponent K
  let (neg, ds) : Bool × List Char := match cs with
    | '-' :: r => (true, r)
    | r => (false, r)
  let (v, rest) := takeDigits ds
  rest.isEmpty && digitsVal v == K.natAbs && neg == decide (K < 0) && !v.isEmpty

theorem expOk_of_lt (K : Int) (h : K.natAbs < 1000) : expOk K = true := by
  obtain ⟨d, ds, hd, hv, hw⟩ := writeExponent_eq K h
  have ht := takeDigits_map_digitChar _ hd
  unfold expOk
  rw [hw]
  by_cases hK : K < 0
  · simp only [hK, if_true, List.singleton_append, ht, hv]
    simp
  · simp only [hK, if_false, List.nil_append]
    split
    · -- the first character is a digit, not `-`
      rename_i heq
      have := congrArg Char.toNat (List.cons.inj heq).1
      rw [toNat_digitChar (hd d List.mem_cons_self)] at this
      have : 48 + d = 45 := this
      omega
    · simp only [ht, hv]
      simp

theorem c18_write_exponent : ((List.range 1999).all fun i => expOk ((i : Int) - 999)) = true :=
  List.all_eq_true.2 fun i hi => expOk_of_lt _ (by have := List.mem_range.1 hi; omega)

-- 0.3 = 0x3FD3333333333333 is printed as "0.3" and "0.3" parses back to the same bits
example : pdtoa Gen.cachedPowers 0x3FD3333333333333 = "0.3".toList := by decide +kernel
example : pstrtod "0.3".toList = some 0x3FD3333333333333 := by decide +kernel
example : pstrtod "1e23".toList = some 0x44B52D02C7E14AF6 := by decide +kernel
example : pstrtod "2.2250738585072014e-308".toList = some 0x0010000000000000 := by decide +kernel
example : pdtoa Gen.cachedPowers 0x44B52D02C7E14AF6 = "1e23".toList ∨ pdtoa Gen.cachedPowers 0x44B52D02C7E14AF6 = "9.999999999999999e22".toList := by
  decide +kernel

end IgVerif.C18
