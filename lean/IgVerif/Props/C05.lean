import IgVerif.Model.Comments
/-!
# C05 — a documentation comment is attached to the declaration it immediately precedes and to no other
-/
namespace IgVerif.C05
open IgVerif.Cm

theorem findIdx_spec : ∀ (cs : List Comment) (line k i : Nat), findIdx cs line k = some i →
    ∃ j x, i = k + j ∧ cs[j]? = some x ∧ adjacent x line = true ∧ (x.attached = 0 ∨ x.attached = line) := by
  intro cs line k i h
  fun_induction findIdx cs line k with
  | case1 => cases h
  | case2 => cases h
  | case3 c rest line k hadj hc =>
    cases h
    refine ⟨0, c, rfl, rfl, hadj, ?_⟩
    simp only [Bool.and_eq_true, bne_iff_ne, ne_eq, not_and, Decidable.not_not] at hc
    exact (Decidable.em (c.attached = 0)).imp_right hc
  | case4 => cases h
  | case5 c rest line k _ _ ih =>
    obtain ⟨j, x, hi, hx, ha⟩ := ih h
    exact ⟨j + 1, x, by omega, hx, ha⟩

theorem attach_eq_modify (cs : List Comment) (i line : Nat) :
    attach cs i line = cs.modify i (fun c => { c with attached := line }) := by
  fun_induction attach cs i line <;> simp [*]

theorem claim_spec {cs : List Comment} {line i : Nat} (h : (claim cs line).2 = some i) :
    (claim cs line).1 = cs.modify i (fun c => { c with attached := line }) ∧
      ∃ x, cs[i]? = some x ∧ adjacent x line = true ∧ (x.attached = 0 ∨ x.attached = line) := by
  unfold claim at h ⊢
  split at h
  · next i' hf =>
    cases h
    obtain ⟨j, x, hi, hx⟩ := findIdx_spec cs line 0 i hf
    exact ⟨attach_eq_modify .., x, by rw [show i = j by omega]; exact hx.1, hx.2⟩
  · cases h

theorem claim_none {cs : List Comment} {line : Nat} (h : (claim cs line).2 = none) : (claim cs line).1 = cs := by
  unfold claim at h ⊢
  split at h
  · cases h
  · rfl

/-- **Immediately precedes.** The comment handed out for a declaration ends on the declaration's
line or on the line before it. -/
theorem c05_comment_adjacent (cs : List Comment) (line i : Nat) (h : (claim cs line).2 = some i) :
    ∃ x, cs[i]? = some x ∧ (x.last = line ∨ x.last + 1 = line) := by
  obtain ⟨_, x, hx, ha, _⟩ := claim_spec h
  exact ⟨x, hx, by simpa [adjacent] using ha⟩

/-- the invariant of a run: every `(line, comment)` pair logged so far is still recorded in the
state (`attached = line`) -/
def Recorded (cs : List Comment) (log : List (Nat × Option Nat)) : Prop :=
  ∀ l i, (l, some i) ∈ log → ∃ x, cs[i]? = some x ∧ x.attached = l

theorem claim_preserves (cs : List Comment) (line : Nat) (i l : Nat) (x : Comment)
    (hx : cs[i]? = some x) (hat : x.attached = l) (hl0 : l ≠ 0) :
    ∃ y, (claim cs line).1[i]? = some y ∧ y.attached = l := by
  cases hc : (claim cs line).2 with
  | none => exact ⟨x, by rwa [claim_none hc], hat⟩
  | some i' =>
    obtain ⟨he, z, hz, _, hzat⟩ := claim_spec hc
    rw [he]
    by_cases hii : i' = i
    · subst hii
      cases hx.symm.trans hz
      -- the comment found was free or already this line's; it is recorded for `l ≠ 0`, so `l` is this line
      exact ⟨_, by rw [List.getElem?_modify_eq, hz]; rfl, hat ▸ (hzat.resolve_left (hat ▸ hl0)).symm⟩
    · exact ⟨x, by rwa [List.getElem?_modify_ne _ _ hii], hat⟩

theorem claim_records (cs : List Comment) (line i : Nat) (h : (claim cs line).2 = some i) :
    ∃ y, (claim cs line).1[i]? = some y ∧ y.attached = line := by
  obtain ⟨he, z, hz, _⟩ := claim_spec h
  exact ⟨_, by rw [he, List.getElem?_modify_eq, hz]; rfl, rfl⟩

theorem claim_invariant {cs : List Comment} {pre : List (Nat × Option Nat)} {l : Nat} (hl : l ≠ 0)
    (hrec : Recorded cs pre) (hpre : ∀ l i, (l, some i) ∈ pre → l ≠ 0) :
    Recorded (claim cs l).1 (pre ++ [(l, (claim cs l).2)]) ∧
      ∀ l' i, (l', some i) ∈ pre ++ [(l, (claim cs l).2)] → l' ≠ 0 := by
  constructor
  · intro l' i hmem
    rcases List.mem_append.mp hmem with hmem | hmem
    · obtain ⟨x, hx, hxa⟩ := hrec l' i hmem
      exact claim_preserves cs l i l' x hx hxa (hpre l' i hmem)
    · obtain ⟨rfl, hres⟩ := Prod.mk.inj (List.mem_singleton.mp hmem)
      exact claim_records cs l' i hres.symm
  · intro l' i hmem
    rcases List.mem_append.mp hmem with hmem | hmem
    · exact hpre l' i hmem
    · exact (Prod.mk.inj (List.mem_singleton.mp hmem)).1 ▸ hl

/-- **… and to no other.** Whatever the comments and whatever declarations claim them, in
whatever order: if the same comment is handed out twice, it is for the same declaration line. -/
theorem c05_comment_once : ∀ (lines : List Nat) (cs : List Comment), (∀ l ∈ lines, l ≠ 0) →
    ∀ (pre : List (Nat × Option Nat)), Recorded cs pre → (∀ l i, (l, some i) ∈ pre → l ≠ 0) →
      ∀ l1 l2 i, (l1, some i) ∈ pre ++ claimAll cs lines → (l2, some i) ∈ pre ++ claimAll cs lines → l1 = l2 := by
  intro lines
  induction lines with
  | nil =>
    intro cs _ pre hrec _ l1 l2 i h1 h2
    rw [claimAll, List.append_nil] at h1 h2
    obtain ⟨x, hx, rfl⟩ := hrec l1 i h1
    obtain ⟨y, hy, rfl⟩ := hrec l2 i h2
    cases hx.symm.trans hy
    rfl
  | cons l ls ih =>
    intro cs hnz pre hrec hpre l1 l2 i h1 h2
    -- move the new log entry into the prefix and use the induction hypothesis on the new state
    obtain ⟨hrec', hpre'⟩ := claim_invariant (hnz l (List.mem_cons_self ..)) hrec hpre
    have := ih (claim cs l).1 (fun l' hl' => hnz l' (List.mem_cons_of_mem _ hl')) _ hrec' hpre' l1 l2 i
    simp only [claimAll, List.append_assoc, List.singleton_append] at this h1 h2
    exact this h1 h2

/-- the statement for a whole file: start with no comment attached -/
theorem c05_comment_once_file (cs : List Comment) (lines : List Nat) (h0 : ∀ l ∈ lines, l ≠ 0)
    (l1 l2 i : Nat) (h1 : (l1, some i) ∈ claimAll cs lines) (h2 : (l2, some i) ∈ claimAll cs lines) : l1 = l2 := by
  have := c05_comment_once lines cs h0 [] (by intro l i h; simp at h) (by intro l i h; simp at h) l1 l2 i
  simpa using this h1 h2

-- `/** doc */ void f();` on line 3, `void g();` on line 4: only f gets the comment (before the fix g got it too)
example : claimAll [⟨3, 0⟩] [3, 4] = [(3, some 0), (4, none)] := by decide +kernel
-- a comment on the line before its declaration; an unrelated earlier comment is not picked up
example : claimAll [⟨7, 0⟩, ⟨2, 0⟩] [5, 8] = [(5, none), (8, some 0)] := by decide +kernel

end IgVerif.C05
