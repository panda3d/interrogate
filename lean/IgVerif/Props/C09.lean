import IgVerif.Lemmas.Cond
import IgVerif.Model.CondC
import IgVerif.Gen.C09Cmds
import IgVerif.Lemmas.SkipScan
/-!
# C09 — conditional inclusion keeps exactly the groups a conforming preprocessor keeps
-/
namespace IgVerif.C09
open IgVerif.Cond

/-- **Refinement.** For every well-nested arrangement of `#if/#ifdef/#ifndef`,
`#elif/#elifdef/#elifndef`, `#else`, `#endif` — any depth, any length, any
conditions, any directives in the groups — interrogate's stack-free skipper keeps
exactly the markers and performs exactly the effects of the nested-group
semantics (first true condition wins, at most one group per conditional). -/
theorem c09_refines {Env : Type} (env : Env) (p : Blocks Env) :
    run none env (flattenBs p) = specBs env p :=
  run_refines env p

/-- **Skipped groups have no effect at all**: whatever a skipped group contains
(markers, defines, includes, `#error`, nested conditionals), the machine leaves it
with the environment it entered with and without output. -/
theorem c09_skipped_no_effect {Env : Type} (k : Bool) (l : Nat) (env : Env) (bs : Blocks Env) (rest : List (Dir Env)) :
    run (some (k, l)) env (flattenBs bs ++ rest) = run (some (k, l)) env rest :=
  skipBs k l env rest bs

/-- **At most one group, the first true one**: once a group has been taken the rest
of the conditional contributes nothing. -/
theorem c09_after_taken_group {Env : Type} (env : Env) (r : Tail Env) (rest : List (Dir Env)) :
    run none env (flattenT r ++ rest) = run none env rest :=
  doneT env rest r

/-- undefined identifiers count as 0 and `defined` is 1/0 -/
theorem c09_undefined_is_zero (env : MEnv) (s : String) (h : env.macros.find? (fun p => p.1 == s) = none) :
    resolve env (.ident s) = .int 0 := by
  simp only [resolve, MEnv.value]
  unfold MEnv.valueFuel
  simp [h]

theorem c09_extraction_ok : Gen.c09ExtractionFailed = false := rfl

/-- while active: the three `#if` forms test; `#else` and every `#elif` form skip to
the matching `#endif` *ignoring* further `#elif`s; `#endif` does nothing -/
theorem c09_active_dispatch : Gen.activeTable =
    [("ifdef", "handle_ifdef_directive(args, loc);"), ("ifndef", "handle_ifndef_directive(args, loc);"),
     ("if", "handle_if_directive(args, loc);"), ("else", "skip_false_if_block(false);"),
     ("elif", "skip_false_if_block(false);"), ("elifdef", "skip_false_if_block(false);"),
     ("elifndef", "skip_false_if_block(false);"), ("endif", "")] := rfl

/-- while skipping: the three `#if` forms nest; `#else` / `#elif*` act only at level 0
and only when `#elif`s are still being considered; `#endif` resumes at level 0 -/
theorem c09_skip_dispatch : Gen.skipTable =
    [("if", "level++;"), ("ifdef", "level++;"), ("ifndef", "level++;"),
     ("else", "if (level == 0 && consider_elifs) { _save_comments = true; return; }"),
     ("elif", "if (level == 0 && consider_elifs) { _save_comments = true; handle_if_directive(args, loc); return; }"),
     ("elifdef", "if (level == 0 && consider_elifs) { _save_comments = true; handle_ifdef_directive(args, loc); return; }"),
     ("elifndef", "if (level == 0 && consider_elifs) { _save_comments = true; handle_ifndef_directive(args, loc); return; }"),
     ("endif", "if (level == 0) { _save_comments = true; return; } level--;")] := rfl

theorem c09_handlers : Gen.handlerTable =
    [("handle_ifdef_directive", "if (!is_manifest_defined(args)) { skip_false_if_block(true); }"),
     ("handle_ifndef_directive", "if (is_manifest_defined(args)) { skip_false_if_block(true); }"),
     ("handle_if_directive.tail", "if (expression_result) { return; } skip_false_if_block(true);")] ∧
    Gen.skipInit = "int level = 0; _save_comments = false; int c = skip_comment(get());" := ⟨rfl, rfl⟩

/-! ## non-vacuity: three nesting levels, a taken `#elifdef`, a define in a kept group -/

def demo : Blocks MEnv :=
  .cons (.eff (effDefine "A" 1))
  (.cons (.cond (condExpr (.bin .eq (.ident "A") (.int 2)))
      (.cons (.text 1) (.cons (.eff effError) .nil))
      (.elif (condIfdef "A")
        (.cons (.text 2) (.cons (.cond (condIfndef "B") (.cons (.eff (effDefine "B" 7)) (.cons (.cond (condExpr (.ident "B")) (.cons (.text 3) .nil) .endif) .nil)) (.els (.cons (.text 4) .nil))) .nil))
        (.els (.cons (.text 5) .nil))))
  (.cons (.text 6) .nil))

example : (specBs {} demo).2 = [2, 3, 6] ∧ (specBs {} demo).1.errors = 0 := by decide +kernel
example : (run none ({} : MEnv) (flattenBs demo)).2 = [2, 3, 6] := by decide +kernel

open IgVerif.Skip

/-- **String literals in skipped text are opaque.** Two skipped groups that differ only in
the text of a string literal (no quote, newline or backslash in it) end at the same place:
a `/*`, `//`, `#endif` or `#else` inside the literal is not seen. -/
theorem c09_string_text_irrelevant (fuel level : Nat) (sol : Bool) (body1 body2 post : List Nat)
    (h1 : ∀ c ∈ body1, c ≠ 34 ∧ c ≠ 10 ∧ c ≠ 92) (h2 : ∀ c ∈ body2, c ≠ 34 ∧ c ≠ 10 ∧ c ≠ 92) :
    skipGroup (fuel + 1) level ⟨some 34, sol, body1 ++ 34 :: post⟩ =
      skipGroup (fuel + 1) level ⟨some 34, sol, body2 ++ 34 :: post⟩ := by
  rw [skipGroup_string fuel level sol body1 post h1, skipGroup_string fuel level sol body2 post h2]

/-- **Block comments in skipped text are opaque**: whatever a comment contains — directive
names, `#`, quotes, `//`, line breaks — scanning resumes behind its `*/` in one and the same
state. -/
theorem c09_comment_text_irrelevant (fuel : Nat) (sol : Bool) (body1 body2 post : List Nat)
    (h1 : noClose body1 = true) (h2 : noClose body2 = true) :
    skipComment (fuel + 1) ⟨some 47, sol, 42 :: (body1 ++ 42 :: 47 :: post)⟩ =
      skipComment (fuel + 1) ⟨some 47, sol, 42 :: (body2 ++ 42 :: 47 :: post)⟩ := by
  rw [skipComment_block fuel sol body1 post h1, skipComment_block fuel sol body2 post h2]

/-- **`#endif` at the start of a line ends the skipped group** at nesting level 0, whatever
follows it; one level down it closes the inner conditional only; `#if` opens one. -/
theorem c09_endif_ends_group (fuel level : Nat) (post : List Nat) :
    skipGroup (fuel + 1) 0 ⟨some 35, true, [101, 110, 100, 105, 102, 10] ++ post⟩ = (.endif, ⟨some 10, true, post⟩) ∧
    skipGroup (fuel + 1) (level + 1) ⟨some 35, true, [101, 110, 100, 105, 102, 10] ++ post⟩ = skipGroup fuel level ⟨some 10, true, post⟩ ∧
    skipGroup (fuel + 1) level ⟨some 35, true, [105, 102, 32, 49, 10] ++ post⟩ = skipGroup fuel (level + 1) ⟨some 10, true, post⟩ :=
  ⟨skipGroup_endif fuel 0 post, skipGroup_endif fuel (level + 1) post, skipGroup_if fuel level post⟩

/-- **`#else` ends the skipped group only at its own level, and only a `#` that begins its line is
a directive**: at nesting level 0 `#else` ends the group; inside a nested conditional it is passed
over with the level unchanged; a `#` in the middle of a line is ordinary text. -/
theorem c09_else_and_midline_hash (fuel level : Nat) (post : List Nat) :
    skipGroup (fuel + 1) 0 ⟨some 35, true, [101, 108, 115, 101, 10] ++ post⟩ = (.els, ⟨some 10, true, post⟩) ∧
    skipGroup (fuel + 1) (level + 1) ⟨some 35, true, [101, 108, 115, 101, 10] ++ post⟩ = skipGroup fuel (level + 1) ⟨some 10, true, post⟩ ∧
    skipGroup (fuel + 1) level ⟨some 35, false, post⟩ = skipGroup fuel level (skipComment (post.length + 1) (get false post)) :=
  ⟨skipGroup_else fuel 0 post, skipGroup_else fuel (level + 1) post, rfl⟩

-- `"/*"` in a skipped group used to swallow the `#endif`; `#` alone on a line used to take the next line
example : (Skip.skipFalseIfBlock (Skip.word "s = \"/*\";\n#endif\nint k;\n")).1 = .endif := by decide +kernel
example : (Skip.skipFalseIfBlock (Skip.word "#\nendif\nint lost;\n#endif\nint k;\n")).2.rest = Skip.word "int k;\n" := by decide +kernel
-- a nested #if … #else … #endif inside the skipped group, then the group's own #else; `x # endif` is text
example : (Skip.skipFalseIfBlock [35, 105, 102, 32, 49, 10, 35, 101, 108, 115, 101, 10, 35, 101, 110, 100, 105, 102, 10, 120, 32, 35, 32, 101, 110, 100, 105, 102, 10, 35, 101, 108, 115, 101, 10, 107]).1 = .els := by decide +kernel

end IgVerif.C09
