import IgVerif.Model.Wrap
/-!
# C01 — arguments cross handle-style wrappers unchanged; one wrapper per default-argument variant
-/
namespace IgVerif.C01
open IgVerif.Wr

/-- a C++ argument is well-typed for its category -/
def wellTyped : Cat → Val → Bool
  | .simple, .scalar _ => true
  | .pointer, .ptr _ => true
  | .reference, .objAt _ => true
  | .structValue, .objAt _ => true
  | _, _ => false

/-- **Every argument kind the back-end accepts crosses the wrapper without change**: what the
generated call passes on is the value (the same scalar, the same pointer, the same object — not a
copy at another address) the caller meant. -/
theorem c01_argument_crosses (c : Cat) (r : Remap) (v : Val) (hr : remapParameter c = some r) (hv : wellTyped c v = true) :
    passParameter r (toWrapper r v) = v := by
  -- an ill-typed pair has `hv : false = true`; otherwise `hr` names the converter and both sides compute
  cases c <;> cases v <;> cases hv <;> cases hr <;> rfl

/-- categories without a converter are refused (no wrapper is generated), never passed through -/
theorem c01_unwrappable_refused : remapParameter .other = none := rfl

/-- **Default arguments**: a function with `n` parameters of which the last `d` have defaults gets
exactly the arities `n-d … n`, each once. -/
theorem c01_arities (n d a : Nat) (hd : d ≤ n) : a ∈ wrapperArities n d ↔ (n - d ≤ a ∧ a ≤ n) := by
  simp only [wrapperArities, List.mem_map, List.mem_range]
  constructor
  · rintro ⟨k, hk, rfl⟩
    exact ⟨Nat.sub_le_sub_left (Nat.le_of_lt_succ hk) n, Nat.sub_le n k⟩
  · rintro ⟨h1, h2⟩
    exact ⟨n - a, by omega, Nat.sub_sub_self h2⟩

theorem c01_arities_nodup (n d : Nat) (hd : d ≤ n) : (wrapperArities n d).Nodup := by
  unfold wrapperArities List.Nodup
  rw [List.pairwise_map]
  have h : (List.range (d + 1)).Pairwise (· < ·) := List.pairwise_lt_range
  exact h.imp_of_mem (by
    intro a b ha hb hab
    simp only [List.mem_range] at ha hb
    omega)

/-- a wrapper of arity `a` runs the C++ function with its own arguments followed by the declared
defaults of the omitted parameters, i.e. exactly the variant C++ would run for that call -/
theorem c01_forwarded_length (args defaults : List Int) (n : Nat) (h1 : args.length ≤ n) (h2 : n - args.length ≤ defaults.length) :
    (forwarded args defaults n).length = n := by
  -- `drop` keeps the last `n - args.length` defaults
  rw [forwarded, List.length_append, List.length_drop, Nat.sub_sub_self h2, Nat.add_sub_cancel' h1]

example : wrapperArities 3 2 = [3, 2, 1] := by decide +kernel
example : forwarded [7] [10, 20] 3 = [7, 10, 20] ∧ forwarded [7, 8] [10, 20] 3 = [7, 8, 20] := by decide +kernel

end IgVerif.C01
